/-
L0: bytes, little-endian integers, the three-valued outcome `Out` with its proof-side sequencing `Out.bind`, hex I/O for the
driver. Core Lean only.
-/
namespace Insim

abbrev Byte := Nat            -- a wire byte is modelled as a `Nat` with an explicit `< 256` predicate
abbrev Bytes := List Nat

/-- every element is a byte -/
def IsBytes (bs : Bytes) : Prop := ∀ b ∈ bs, b < 256

instance (bs : Bytes) : Decidable (IsBytes bs) := by unfold IsBytes; infer_instance

/-- little-endian image of `n` on `w` bytes (truncating: this *is* Rust's `as uN` followed by `to_le_bytes`) -/
def leBytes : Nat → Nat → Bytes
  | 0, _ => []
  | w + 1, n => (n % 256) :: leBytes w (n / 256)

/-- little-endian value of a byte list -/
def ofLe : Bytes → Nat
  | [] => 0
  | b :: bs => b + 256 * ofLe bs

@[simp] theorem leBytes_length (w n : Nat) : (leBytes w n).length = w := by
  induction w generalizing n with
  | zero => rfl
  | succ w ih => simp [leBytes, ih]

theorem leBytes_isBytes (w n : Nat) : IsBytes (leBytes w n) := by
  induction w generalizing n with
  | zero => intro b hb; simp [leBytes] at hb
  | succ w ih =>
    intro b hb
    simp only [leBytes, List.mem_cons] at hb
    rcases hb with rfl | hb
    · exact Nat.mod_lt _ (by decide)
    · exact ih _ b hb

/-- truncation law: `ofLe (leBytes w n) = n % 256^w` (the meaning of `as uN`) -/
theorem ofLe_leBytes_mod (w n : Nat) : ofLe (leBytes w n) = n % 256 ^ w := by
  induction w generalizing n with
  | zero => simp [leBytes, ofLe, Nat.mod_one]
  | succ w ih =>
    simp only [leBytes, ofLe, ih]
    rw [Nat.pow_succ, Nat.mul_comm (256 ^ w) 256, Nat.mod_mul]

theorem ofLe_leBytes (w n : Nat) (h : n < 256 ^ w) : ofLe (leBytes w n) = n := by
  rw [ofLe_leBytes_mod, Nat.mod_eq_of_lt h]

theorem leBytes_ofLe (bs : Bytes) (h : IsBytes bs) : leBytes bs.length (ofLe bs) = bs := by
  induction bs with
  | nil => rfl
  | cons b bs ih =>
    obtain ⟨hb, hbs⟩ := List.forall_mem_cons.mp h
    simp only [List.length_cons, leBytes, ofLe]
    have h1 : (b + 256 * ofLe bs) % 256 = b := by omega
    have h2 : (b + 256 * ofLe bs) / 256 = ofLe bs := by omega
    rw [h1, h2, ih hbs]

theorem ofLe_lt (bs : Bytes) (h : IsBytes bs) : ofLe bs < 256 ^ bs.length := by
  induction bs with
  | nil => simp [ofLe]
  | cons b bs ih =>
    obtain ⟨hb, hbs⟩ := List.forall_mem_cons.mp h
    have := ih hbs
    simp only [ofLe, List.length_cons]
    omega

/-! ### three-valued outcome -/

inductive ErrClass | framing | decode | encode | io | version (n : Nat) | disconnected | timeout
  deriving DecidableEq, Repr

inductive Out (α : Type) where
  | ok (a : α)
  | err (e : ErrClass)
  | panic
  deriving Repr, DecidableEq

/-- sequencing, on the proof side: the model writes every step out as
`match x with | .ok a => f a | .err e => .err e | .panic => .panic`; each definition's unfolding lemma restates it with `bind` -/
def Out.bind {α β : Type} (x : Out α) (f : α → Out β) : Out β :=
  match x with
  | .ok a => f a
  | .err e => .err e
  | .panic => .panic

@[simp] theorem Out.ok_bind {α β : Type} (a : α) (f : α → Out β) : (Out.ok a).bind f = f a := rfl

theorem Out.bind_eq_ok {α β : Type} {x : Out α} {f : α → Out β} {b : β} :
    x.bind f = .ok b ↔ ∃ a, x = .ok a ∧ f a = .ok b := by
  cases x <;> simp [Out.bind]

theorem Out.bind_ne_panic {α β : Type} {x : Out α} {f : α → Out β} (hx : x ≠ .panic) (hf : ∀ a, f a ≠ .panic) :
    x.bind f ≠ .panic := by
  cases x with
  | ok a => exact hf a
  | err e => exact nofun
  | panic => exact absurd rfl hx

/-- an `if` whose value is not what its `then` branch gives took the `else` branch (inversion of an `if` chain
against a constructor, one link at a time) -/
theorem else_of_ite_eq {α} {c : Prop} [Decidable c] {a b v : α} (h : (if c then a else b) = v) (hne : a ≠ v) :
    ¬ c ∧ b = v := by
  by_cases hc : c
  · rw [if_pos hc] at h; exact absurd h hne
  · rw [if_neg hc] at h; exact ⟨hc, h⟩

def ErrClass.toStr : ErrClass → String
  | .framing => "framing" | .decode => "decode" | .encode => "encode" | .io => "io"
  | .version n => s!"version({n})" | .disconnected => "disconnected" | .timeout => "timeout"

/-! ### hex I/O (driver only; no theorem depends on these) -/

def hexDigit (n : Nat) : Char :=
  if n < 10 then Char.ofNat (48 + n) else Char.ofNat (87 + n)

def hexByte (b : Nat) : String := String.ofList [hexDigit (b / 16 % 16), hexDigit (b % 16)]

def toHex (bs : Bytes) : String := if bs.isEmpty then "-" else String.join (bs.map hexByte)

def unhexDigit (c : Char) : Option Nat :=
  if '0' ≤ c ∧ c ≤ '9' then some (c.toNat - 48)
  else if 'a' ≤ c ∧ c ≤ 'f' then some (c.toNat - 87)
  else if 'A' ≤ c ∧ c ≤ 'F' then some (c.toNat - 55)
  else none

def parseHexAux : List Char → Option Bytes
  | [] => some []
  | [_] => none
  | a :: b :: rest =>
    match unhexDigit a, unhexDigit b, parseHexAux rest with
    | some x, some y, some r => some ((x * 16 + y) :: r)
    | _, _, _ => none

def parseHex (s : String) : Option Bytes := if s = "-" then some [] else parseHexAux s.toList

end Insim
