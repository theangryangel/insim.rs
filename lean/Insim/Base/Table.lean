import Insim.Base.Bytes
/-
Tables as association lists: what a lookup finds is in the table (`lookup_some_mem`), two tables that find each other's rows look
up alike (`lookup_eq_of_agree`, the vehicle tables), and the model's own lookups `lookupN` / `lookupB` / `memN`, used by the track,
codepage, builder and packet tables, are `List.lookup` and `∈`.
-/
namespace Insim

theorem lookup_some_mem {κ : Type u} {ν : Type v} [BEq κ] [LawfulBEq κ] {t : List (κ × ν)} {k : κ} {v : ν}
    (h : t.lookup k = some v) : (k, v) ∈ t := by
  obtain ⟨l₁, l₂, rfl, -⟩ := List.lookup_eq_some_iff.mp h
  simp

/-- a lookup in an explicit table is an `if` chain -/
theorem lookup_cons_ite {κ β} [DecidableEq κ] (a k : κ) (b : β) (l : List (κ × β)) :
    List.lookup a ((k, b) :: l) = if a = k then some b else List.lookup a l := by
  rw [List.lookup_cons]; split <;> simp_all

/-- two tables each of whose rows the other one finds agree as finite maps, whatever the order of the rows -/
theorem lookup_eq_of_agree {κ ν : Type} [BEq κ] [LawfulBEq κ] {t s : List (κ × ν)} (hts : ∀ r ∈ t, s.lookup r.1 = some r.2)
    (hst : ∀ r ∈ s, t.lookup r.1 = some r.2) (k : κ) : t.lookup k = s.lookup k := by
  cases ht : t.lookup k with
  | some v => exact (hts _ (lookup_some_mem ht)).symm
  | none =>
    cases hs : s.lookup k with
    | none => rfl
    | some v => exact absurd (hst _ (lookup_some_mem hs)) (by simp [ht])

variable {κ ν : Type} [BEq κ] [LawfulBEq κ] [BEq ν] [LawfulBEq ν]

theorem lookup_none_not_mem {t : List (κ × ν)} {k : κ} (h : t.lookup k = none) (v : ν) : (k, v) ∉ t :=
  fun hm => by simpa using List.lookup_eq_none_iff.mp h _ hm

/-- in a list with exactly one element satisfying `p`, `find?` returns it -/
theorem find?_of_unique {α : Type} {l : List α} {p : α → Bool} {a : α} (ha : a ∈ l) (hp : p a = true)
    (hu : (l.filter p).length = 1) : l.find? p = some a := by
  rw [← List.head?_filter]
  have hm : a ∈ l.filter p := List.mem_filter.mpr ⟨ha, hp⟩
  match h : l.filter p, hu with
  | [b], _ => rw [h] at hm; simp at hm; simp [hm]

end Insim

/-! ### the tables the model looks things up in

The same functions with the comparisons spelled out (`Nat.beq`, no instance arguments): the model files use these. Each is
`List.lookup` / `∈` / `=` in other words, and that is how the proofs use them. -/
namespace Insim

def beqB : Bytes → Bytes → Bool
  | [], [] => true
  | a :: as, b :: bs => Nat.beq a b && beqB as bs
  | _, _ => false

theorem beqB_iff (a b : Bytes) : beqB a b = true ↔ a = b := by
  induction a generalizing b with
  | nil => cases b <;> simp [beqB]
  | cons x xs ih =>
    cases b with
    | nil => simp [beqB]
    | cons y ys => simp [beqB, ih]

/-- lookup by a `Nat` key -/
def lookupN {β} (k : Nat) : List (Nat × β) → Option β
  | [] => none
  | (a, b) :: r => if Nat.beq a k then some b else lookupN k r

/-- lookup by a byte-string key -/
def lookupB {β} (k : Bytes) : List (Bytes × β) → Option β
  | [] => none
  | (a, b) :: r => if beqB a k then some b else lookupB k r

def memN (k : Nat) : List Nat → Bool
  | [] => false
  | a :: r => Nat.beq a k || memN k r

def optBeqB : Option Bytes → Bytes → Bool
  | some a, b => beqB a b
  | none, _ => false

def optBeqN : Option Nat → Nat → Bool
  | some a, b => Nat.beq a b
  | none, _ => false

theorem optBeqB_iff (o : Option Bytes) (b : Bytes) : optBeqB o b = true ↔ o = some b := by
  cases o <;> simp [optBeqB, beqB_iff]

theorem optBeqN_iff (o : Option Nat) (b : Nat) : optBeqN o b = true ↔ o = some b := by
  cases o <;> simp [optBeqN]

theorem lookupN_eq_lookup {β} (k : Nat) (t : List (Nat × β)) : lookupN k t = t.lookup k := by
  induction t with
  | nil => rfl
  | cons r rs ih =>
    obtain ⟨a, b⟩ := r
    rw [lookupN, List.lookup_cons, ih]
    by_cases h : a = k
    · simp [h]
    · simp [h, beq_false_of_ne (Ne.symm h)]

theorem lookupB_eq_lookup {β} (k : Bytes) (t : List (Bytes × β)) : lookupB k t = t.lookup k := by
  induction t with
  | nil => rfl
  | cons r rs ih =>
    obtain ⟨a, b⟩ := r
    rw [lookupB, List.lookup_cons, ih]
    by_cases h : a = k
    · simp [h, (beqB_iff k k).mpr]
    · simp [h, beq_false_of_ne (Ne.symm h), beqB_iff]

theorem lookupN_some_mem {β} {t : List (Nat × β)} {k : Nat} {v : β} (h : lookupN k t = some v) : (k, v) ∈ t :=
  lookup_some_mem (lookupN_eq_lookup k t ▸ h)

theorem lookupB_some_mem {β} {t : List (Bytes × β)} {k : Bytes} {v : β} (h : lookupB k t = some v) : (k, v) ∈ t :=
  lookup_some_mem (lookupB_eq_lookup k t ▸ h)

theorem memN_iff (k : Nat) (l : List Nat) : memN k l = true ↔ k ∈ l := by
  induction l with
  | nil => simp [memN]
  | cons a r ih => rw [memN, Bool.or_eq_true, ih, List.mem_cons, Nat.beq_eq, eq_comm]

end Insim
