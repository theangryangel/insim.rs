import Insim.Lemmas.RoundTrip
import Insim.Lemmas.GenEnv
import Insim.Props.C13
import Insim.Props.C14
import Insim.Props.C15
import Insim.Lemmas.GameVersion
/-
The hand-written field codecs plug into the generic layout proof: `CRep` is each codec's in-domain
predicate, `customs_lawful` the proof that, on it, decoding the written bytes returns the values.
`GameVersion` (8-byte text <-> parsed version): the model carries the major number as its canonical text
(the float's shortest printing, see Model/Layout.lean); in-domain = canonical major text, upper-case minor
letter, the printed text fits the 8 bytes. That printing and parsing an `f32` agree with this text-level
view is tied to the code by the correspondence run (C16 states the laws assumed of the standard library).
-/
namespace Insim.Layout
open Insim

/-- a canonical major text: ASCII digits and dots only, left unchanged by `normMajor`, readable as a float -/
def GvMajorOk (maj : Bytes) : Prop :=
  (∀ c ∈ maj, GV.isAsciiDigit c = true ∨ c = 46) ∧ normMajor maj = maj ∧ (GV.parseF32 maj).isSome = true

def gvText (maj : Bytes) (minor patch : Nat) : Bytes := maj ++ [minor] ++ (if patch = 0 then [] else natDigits (patch - 1))

def GvRep (maj : Bytes) (minor patch : Nat) : Prop :=
  GvMajorOk maj ∧ 65 ≤ minor ∧ minor ≤ 90 ∧ (gvText maj minor patch).length ≤ 8

theorem trimEndNul_pad (t : Bytes) (k : Nat) (hne : t ≠ []) (hnz : ∀ c ∈ t, c ≠ 0) : trimEndNul (t ++ List.replicate k 0) = t := by
  unfold trimEndNul
  rw [List.reverse_append, List.reverse_replicate,
    List.dropWhile_append_of_pos fun a ha => decide_eq_true (List.eq_of_mem_replicate ha)]
  -- what is left starts with the last character of `t`, which is not NUL
  cases hr : t.reverse with
  | nil => exact absurd (List.reverse_eq_nil_iff.mp hr) hne
  | cons x xs =>
    have hx : x ≠ 0 := hnz x (by rw [← List.mem_reverse, hr]; exact List.mem_cons_self)
    rw [List.dropWhile_cons_of_neg (by simpa using hx), ← hr, List.reverse_reverse]

theorem digit_nz (c : Nat) (h : GV.isAsciiDigit c = true) : c ≠ 0 ∧ c < 128 := by
  simp [GV.isAsciiDigit] at h; omega

/-- the version reader on a clean text (ASCII, no NUL) padded with NULs: what `GV.parse` makes of the text -/
theorem customDec_gameVersion_pad (env : Env) {t : Bytes} (k : Nat) (hne : t ≠ []) (ht : ∀ c ∈ t, c ≠ 0 ∧ c < 128) :
    customDec env .gameVersion (t ++ List.replicate k 0) =
      match GV.parse gvEnv t with
      | .ok g => .ok [.b (normMajor (t.takeWhile fun c => GV.isAsciiDigit c || c == 46)), .n g.minor,
                      .n (match g.patch with | some p => p + 1 | none => 0)]
      | .error _ => .err .decode := by
  have hlt : (t ++ List.replicate k 0).all (· < 128) = true := by
    simp only [List.all_eq_true, List.mem_append, List.mem_replicate, decide_eq_true_eq]
    rintro c (hc | ⟨-, rfl⟩)
    · exact (ht c hc).2
    · decide
  have hnil : t.isEmpty = false := by cases t <;> simp_all
  simp only [customDec, hlt, trimEndNul_pad t k hne fun c hc => (ht c hc).1, hnil]
  cases GV.parse gvEnv t <;> rfl

/-- the `Small` reader on a discriminant `d` followed by the little-endian image of a 32-bit word `u`: its decision
table in `d` and `u` -/
theorem customDec_smallType (env : Env) (d : Nat) {u : Nat} (hu : u < 2 ^ 32) :
    customDec env .smallType (d :: leBytes 4 u) =
      if d = 0 then .ok [.n 0, .n 0]
      else if d = 1 ∨ d = 2 ∨ d = 5 ∨ d = 6 then .ok [.n d, .n (u * 10)]
      else if d = 3 then .ok [.n 3, .n (if u = 1 ∨ u = 2 ∨ u = 3 then u else 0)]
      else if d = 4 then .ok [.n 4, .n (if u = 0 then 0 else 1)]
      else if d = 7 then .ok [.n 7, .n u]
      else if d = 8 then .ok [.n 8, .n (u &&& env.smallAlcMask)]
      else if d = 9 then .ok [.n 9, .n (u &&& env.smallLcsMask)]
      else if d = 10 then .ok [.n 10, .n (u &&& env.smallLclMask)]
      else .err .decode := by
  -- the reader unfolds on the five explicit bytes; it sees `u` as `ofLe` of its four
  conv => rhs; rw [← ofLe_leBytes 4 u hu]
  rfl

variable {maj : Bytes} {minor patch : Nat}

/-- the text of an in-domain version: the major part, the letter, then digits — ASCII and no NUL -/
theorem GvRep.clean (h : GvRep maj minor patch) : ∀ c ∈ gvText maj minor patch, c ≠ 0 ∧ c < 128 := by
  obtain ⟨⟨hchars, -, -⟩, hlo, hhi, -⟩ := h
  intro c hc
  simp only [gvText, List.mem_append, List.mem_singleton] at hc
  rcases hc with (hc | rfl) | hc
  · rcases hchars c hc with h | rfl
    · exact digit_nz c h
    · omega
  · omega
  · split at hc
    · cases hc
    · exact digit_nz c (GV.natDigits_digits _ c hc)

/-- … its major part is what precedes the letter -/
theorem GvRep.major (h : GvRep maj minor patch) :
    (gvText maj minor patch).takeWhile (fun c => GV.isAsciiDigit c || c == 46) = maj := by
  obtain ⟨⟨hchars, -, -⟩, hlo, hhi, -⟩ := h
  rw [gvText, List.append_assoc, List.singleton_append, List.takeWhile_append_of_pos, List.takeWhile_cons_of_neg,
    List.append_nil]
  · simp [GV.isAsciiDigit]; omega
  · intro x hx
    rcases hchars x hx with h | rfl <;> simp [*]

/-- … and it parses to its three parts -/
theorem GvRep.parse (h : GvRep maj minor patch) {bits : Nat} (hb : GV.parseF32 maj = some bits) :
    GV.parse gvEnv (gvText maj minor patch) =
      .ok { major := bits, minor := minor, patch := if patch = 0 then none else some (patch - 1) } := by
  obtain ⟨⟨hchars, -, -⟩, hlo, hhi, hlen⟩ := h
  have hmajp : ∀ x ∈ maj, GV.isMajorChar gvEnv x = true := by
    intro x hx
    rcases hchars x hx with h | rfl <;> simp [GV.isMajorChar, gvEnv, *]
  have hminM : GV.isMajorChar gvEnv minor = false := by
    simp [GV.isMajorChar, gvEnv, GV.isAsciiDigit]; omega
  rw [gvText, List.append_assoc, List.singleton_append,
    GV.parse_major_letter gvEnv maj minor _ hmajp hminM (GV.upper_isAlpha hlo hhi)]
  simp only [show gvEnv.parseF = GV.parseF32 from rfl, hb, GV.toAsciiUpper_upper hhi]
  by_cases hp0 : patch = 0
  · simp [hp0, GV.patchPhase]
  · -- at most 8 characters, so the revision is far below 2^64
    simp only [hp0]
    refine GV.patchPhase_natDigits gvEnv (fun _ h => h) _ _ ?_
    have h1 := GV.lt_pow_natDigits (patch - 1)
    have h2 : (GV.natDigits (patch - 1)).length ≤ 8 := by
      simp only [gvText, hp0, if_false, List.length_append, natDigits] at hlen
      omega
    have h3 : 10 ^ (GV.natDigits (patch - 1)).length ≤ 10 ^ 8 := Nat.pow_le_pow_right (by omega) h2
    omega

theorem gv_roundtrip (env : Env) (maj : Bytes) (minor patch : Nat) (h : GvRep maj minor patch) (bs : Bytes)
    (he : customEnc env .gameVersion [.b maj, .n minor, .n patch] = .ok bs) :
    customDec env .gameVersion bs = .ok [.b maj, .n minor, .n patch] := by
  obtain ⟨bits, hbits⟩ := Option.isSome_iff_exists.mp h.1.2.2
  -- the text fits the eight bytes: it is written whole, and padded
  have hw : bs = gvText maj minor patch ++ List.replicate (8 - (gvText maj minor patch).length) 0 := by
    cases he
    show List.take 8 (gvText maj minor patch) ++ List.replicate (8 - (List.take 8 (gvText maj minor patch)).length) 0 = _
    rw [List.take_of_length_le h.2.2.2]
  rw [hw, customDec_gameVersion_pad env _ (by simp [gvText]) h.clean, h.parse hbits, h.major, h.1.2.1]
  by_cases hp0 : patch = 0
  · simp [hp0]
  · simp [hp0, show patch - 1 + 1 = patch by omega]

def CRep : CustomId → List Val → Prop
  | .raceLaps, vs => ∃ k x, vs = [.n k, .n x] ∧
      ((k = 0 ∧ x = 0) ∨ (k = 1 ∧ ((1 ≤ x ∧ x ≤ 99) ∨ (100 ≤ x ∧ x ≤ 1000 ∧ x % 10 = 0))) ∨ (k = 2 ∧ 1 ≤ x ∧ x ≤ 48))
  | .fuel, vs => ∃ k p, vs = [.n k, .n p] ∧ ((k = 0 ∧ p < 255) ∨ (k = 1 ∧ p = 0))
  | .fuel200, vs => ∃ k p, vs = [.n k, .n p] ∧ ((k = 0 ∧ p < 255) ∨ (k = 1 ∧ p = 0))
  | .cimMode, vs => ∃ d s t, vs = [.n d, .n s, .n t] ∧
      ((d = 0 ∧ s ≤ 4 ∧ t = 0) ∨ ((d = 1 ∨ d = 2 ∨ d = 4 ∨ d = 5) ∧ s = 0 ∧ t = 0) ∨ (d = 3 ∧ s ≤ 8 ∧ t = 0) ∨ (d = 6 ∧ s ≤ 2 ∧ t < 256))
  | .conInfo, vs => ∃ plid info steer thr brk clu han gearsp speed direction heading accelf accelr x y,
      vs = [.n plid, .n info, .n steer, .n thr, .n brk, .n clu, .n han, .n gearsp, .n speed, .n direction, .n heading, .n accelf, .n accelr, .n x, .n y] ∧
      plid < 256 ∧ info < 256 ∧ info &&& genEnv.compCarInfoMask = info ∧ steer < 256 ∧ thr ≤ 15 ∧ brk ≤ 15 ∧ clu ≤ 15 ∧ han ≤ 15 ∧ gearsp ≤ 15 ∧
      speed < 256 ∧ direction < 256 ∧ heading < 256 ∧ accelf < 256 ∧ accelr < 256 ∧ x < 65536 ∧ y < 65536
  | .smallType, vs => ∃ d v, vs = [.n d, .n v] ∧
      ((d = 0 ∧ v = 0) ∨ ((d = 1 ∨ d = 2 ∨ d = 5 ∨ d = 6) ∧ v % 10 = 0 ∧ v / 10 < 2 ^ 32) ∨ (d = 3 ∧ v ≤ 3) ∨ (d = 4 ∧ v ≤ 1) ∨
       (d = 7 ∧ v < 2 ^ 32) ∨ (d = 8 ∧ v < 2 ^ 32 ∧ v &&& genEnv.smallAlcMask = v) ∨ (d = 9 ∧ v < 2 ^ 32 ∧ v &&& genEnv.smallLcsMask = v) ∨
       (d = 10 ∧ v < 2 ^ 32 ∧ v &&& genEnv.smallLclMask = v))
  | .vehicle, vs => ∃ b veh, IsBytes b ∧ Vehicle.decode genEnv.vehRead b = .ok veh ∧ vs = vehVals veh
  | .track, vs => ∃ t, t ∈ Gen.Track.variants ∧ vs = [.n t]
  | .gameVersion, vs => ∃ maj minor patch, vs = [.b maj, .n minor, .n patch] ∧ GvRep maj minor patch

theorem vehOfVals_vehVals (v : Vehicle.Veh) : vehOfVals (vehVals v) = some v := by
  cases v <;> rfl

theorem ofLe2 (v : Nat) (h : v < 65536) : ofLe (leBytes 2 v) = v := ofLe_leBytes 2 v (by omega)

theorem nibbles {a b : Nat} (h : b ≤ 15) : (a * 16 + b) / 16 = a ∧ (a * 16 + b) % 16 = b := by omega

theorem customs_lawful : CustomLawful genEnv CRep := by
  refine ⟨genEnv_sized, ?_⟩
  intro c vs bs hr he
  cases c with
  | raceLaps =>
    obtain ⟨k, x, rfl, h⟩ := hr
    cases he
    rcases h with ⟨rfl, rfl⟩ | ⟨rfl, h⟩ | ⟨rfl, h1, h2⟩
    · rfl
    · have hin : Dur.InRange (.laps x) := by simp only [Dur.InRange]; omega
      have := Props.C15.laps_enc_sound (.laps x) hin
      have hrd : Dur.roundDown (.laps x) = .laps x := by
        simp only [Dur.roundDown]; split
        · exact congrArg Dur.RaceLaps.laps (by omega)
        · rfl
      simp only [customDec, if_neg (show (1 : Nat) ≠ 0 by decide), if_true, this, hrd]
    · have hin : Dur.InRange (.hours x) := by simp only [Dur.InRange]; omega
      have := Props.C15.laps_enc_sound (.hours x) hin
      simp only [customDec, if_neg (show (2 : Nat) ≠ 0 by decide), if_neg (show (2 : Nat) ≠ 1 by decide), this, Dur.roundDown]
  | fuel | fuel200 =>
    obtain ⟨k, p, rfl, h⟩ := hr
    cases he
    rcases h with ⟨rfl, hp⟩ | ⟨rfl, rfl⟩
    · have : p % 256 = p := by omega
      have hne : p ≠ 255 := by omega
      simp [customDec, this, Dur.fuelRead, hne]
    · simp [customDec, Dur.fuelRead]
  | cimMode =>
    obtain ⟨d, s, t, rfl, h⟩ := hr
    cases he
    rcases h with ⟨rfl, hs, rfl⟩ | ⟨hd, rfl, rfl⟩ | ⟨rfl, hs, rfl⟩ | ⟨rfl, hs, ht⟩
    · simp [customDec, hs]
    · rcases hd with rfl | rfl | rfl | rfl <;> simp [customDec]
    · simp [customDec, hs]
    · have : s = 0 ∨ s = 1 ∨ s = 2 := by omega
      rcases this with rfl | rfl | rfl <;> simp [customDec]
  | conInfo =>
    obtain ⟨plid, info, steer, thr, brk, clu, han, gearsp, speed, direction, heading, accelf, accelr, x, y, rfl,
      h1, h2, h3, h4, h5, h6, h7, h8, h9, h10, h11, h12, h13, h14, h15, h16⟩ := hr
    -- no nibble exceeds 15, so the writer writes its sixteen bytes, and the reader unfolds on them
    cases he.symm.trans (if_neg (by omega))
    show Out.ok _ = Out.ok _
    -- a byte is itself modulo 256, a byte of two nibbles unpacks into them, two bytes make up a 16-bit word
    have hx : ofLe [x % 256, x / 256 % 256] = x := ofLe2 x h15
    have hy : ofLe [y % 256, y / 256 % 256] = y := ofLe2 y h16
    rw [Nat.mod_eq_of_lt h1, Nat.mod_eq_of_lt h2, h3, Nat.mod_eq_of_lt h4, (nibbles h6).1, (nibbles h6).2, (nibbles h8).1,
      (nibbles h8).2, Nat.mul_div_cancel _ (by decide), Nat.mod_eq_of_lt h10, Nat.mod_eq_of_lt h11, Nat.mod_eq_of_lt h12,
      Nat.mod_eq_of_lt h13, Nat.mod_eq_of_lt h14, hx, hy]
  | smallType =>
    obtain ⟨d, v, rfl, h⟩ := hr
    -- in every alternative of the domain the writer writes `d :: leBytes 4 u` with `u < 2 ^ 32`: `customDec_smallType`
    rcases h with ⟨rfl, rfl⟩ | ⟨hd, hm, hq⟩ | ⟨rfl, hv⟩ | ⟨rfl, hv⟩ | ⟨rfl, hv⟩ | ⟨rfl, hv, hmk⟩ | ⟨rfl, hv, hmk⟩ | ⟨rfl, hv, hmk⟩
    · cases he; rfl
    · -- the four times: written divided by ten, read multiplied by ten
      have hw : Dur.smallWriteVal 10 v = .ok (v / 10) := if_pos hq
      have hmul : v / 10 * 10 = v := Nat.div_mul_cancel (Nat.dvd_of_mod_eq_zero hm)
      simp only [customEnc, hd, hw] at he
      cases he
      rw [customDec_smallType _ _ hq]
      rcases hd with rfl | rfl | rfl | rfl <;> simp [hmul]
    · cases he; rw [customDec_smallType _ _ (by omega)]; simp; omega
    · cases he; rw [customDec_smallType _ _ (by omega)]; simp; split <;> omega
    · have hw : Dur.smallWriteVal 1 v = .ok v := by simp [Dur.smallWriteVal, hv]
      simp only [customEnc, hw] at he
      cases he; rw [customDec_smallType _ _ hv]; simp
    all_goals cases he; rw [customDec_smallType _ _ hv]; simp [hmk]
  | vehicle =>
    obtain ⟨b, veh, hb, hd, rfl⟩ := hr
    simp only [customEnc, vehOfVals_vehVals] at he
    cases he.symm.trans (Props.C13.reencode b hb veh hd)
    simp only [customDec, hd]
  | track =>
    obtain ⟨t, ht, rfl⟩ := hr
    obtain ⟨w, hw, hdw⟩ := Props.C14.decode_encode t ht
    cases he.symm.trans hw
    have e : genEnv.trkRead = Gen.Track.readRows := rfl
    simp only [customDec, e, hdw]
  | gameVersion =>
    obtain ⟨maj, minor, patch, rfl, h⟩ := hr
    exact gv_roundtrip genEnv maj minor patch h bs he

/-- non-vacuity: version `0.7D3` is in the domain -/
example : GvRep [48, 46, 55] 68 4 := by
  refine ⟨⟨by decide, by decide, by decide +kernel⟩, by omega, by omega, by decide +kernel⟩

end Insim.Layout
