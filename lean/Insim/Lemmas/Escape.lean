import Insim.Model.Escape
import Insim.Base.Table
/-
What the proofs of C12 know about Model/Escape: the escape table (of which `esc?` and `unesc?` are the two
directions), how each scanner steps over one token, that every fast path agrees with its slow path, and the
graph of `escapeSlow`.
-/
namespace Insim.Esc

def escPairs : List (Nat × Nat) :=
  [(94, 94), (124, 118), (42, 97), (58, 99), (92, 100), (47, 115), (63, 113), (34, 116), (60, 108), (62, 114), (35, 104)]

-- `split` on the eleven-deep `if` chain of `esc?` is very slow to check, so the chain is never split: the lookup is rewritten into it
theorem esc?_eq (c : Nat) : esc? c = escPairs.lookup c := by
  simp only [escPairs, lookup_cons_ite]; rfl

theorem esc_mem {c e : Nat} (h : esc? c = some e) : (c, e) ∈ escPairs :=
  lookup_some_mem (esc?_eq c ▸ h)

theorem unesc_esc {c e : Nat} (h : esc? c = some e) : unesc? e = some c :=
  have : ∀ p ∈ escPairs, unesc? p.2 = some p.1 := by decide
  this _ (esc_mem h)

theorem esc_caret_image {c : Nat} (h : esc? c = some 94) : c = 94 :=
  have : ∀ p ∈ escPairs, p.2 = 94 → p.1 = 94 := by decide
  this _ (esc_mem h) rfl

theorem esc_none_ne_caret {c : Nat} (h : esc? c = none) : c ≠ 94 := by
  rintro rfl; cases h

theorem esc_none_not_reserved {c : Nat} (h : esc? c = none) : c ∉ reserved :=
  have : ∀ c ∈ reserved, esc? c ≠ none := by decide
  fun hm => this c hm h

theorem isColour_ne_caret {d : Nat} (h : isColour d = true) : d ≠ 94 := by
  rintro rfl; cases h

theorem colour_not_esc {d : Nat} (h : isColour d = true) : esc? d = none ∧ unesc? d = none :=
  have : ∀ d ∈ List.range' 48 10, esc? d = none ∧ unesc? d = none := by decide
  this d (by simp only [isColour, Bool.and_eq_true, decide_eq_true_eq] at h; simp only [List.mem_range'_1]; omega)

theorem unescapeSlow_plain {c : Nat} (xs : Str) (hc : c ≠ 94) : unescapeSlow (c :: xs) = c :: unescapeSlow xs := by
  cases xs <;> simp [unescapeSlow, hc]

theorem unescapeSlow_pair {e k : Nat} (xs : Str) (h : unesc? e = some k) :
    unescapeSlow (94 :: e :: xs) = k :: unescapeSlow xs := by
  simp [unescapeSlow, h]

theorem unescapeSlow_colour {d : Nat} (xs : Str) (h : isColour d = true) :
    unescapeSlow (94 :: d :: xs) = 94 :: d :: unescapeSlow xs := by
  rw [← unescapeSlow_plain xs (isColour_ne_caret h)]; simp [unescapeSlow, (colour_not_esc h).2]

theorem stripSlow_plain {c : Nat} (xs : Str) (hc : c ≠ 94) : stripSlow (c :: xs) = c :: stripSlow xs := by
  cases xs <;> simp [stripSlow, hc]

theorem id_of_no_caret {f : Str → Str} (h0 : f [] = []) (hp : ∀ c xs, c ≠ 94 → f (c :: xs) = c :: f xs)
    (s : Str) (h : s.any (· == 94) = false) : f s = s := by
  induction s with
  | nil => exact h0
  | cons c cs ih =>
    simp only [List.any_cons, Bool.or_eq_false_iff, beq_eq_false_iff_ne] at h
    rw [hp c cs h.1, ih h.2]

theorem unescape_eq_slow (s : Str) : unescape s = unescapeSlow s :=
  ite_eq_left_iff.2 fun h => (id_of_no_caret rfl (fun _ xs => unescapeSlow_plain xs) s (Bool.eq_false_iff.2 h)).symm

theorem strip_eq_slow (s : Str) : strip s = stripSlow s :=
  ite_eq_left_iff.2 fun h => (id_of_no_caret rfl (fun _ xs => stripSlow_plain xs) s (Bool.eq_false_iff.2 h)).symm

/-- `escapeSlow` as three rules; its case for the last character is an instance of the other two -/
inductive Escaped : Str → Str → Prop
  | nil : Escaped [] []
  | colour {d r o} : isColour d = true → Escaped r o → Escaped (94 :: d :: r) (94 :: d :: o)
  | esc {c e r o} : esc? c = some e → Escaped r o → Escaped (c :: r) (94 :: e :: o)
  | plain {c r o} : esc? c = none → Escaped r o → Escaped (c :: r) (c :: o)

theorem escaped (s : Str) : Escaped s (escapeSlow s) := by
  fun_induction escapeSlow s with
  | case1 => exact .nil
  | case2 c e h => exact .esc h .nil
  | case3 c h => exact .plain h .nil
  | case4 c d r h ih => exact h.1 ▸ .colour h.2 ih
  | case5 c d r _ e h ih => exact .esc h ih
  | case6 c d r _ h ih => exact .plain h ih

theorem Escaped.head {s o : Str} (h : Escaped s o) : ∀ x ∈ o.head?, x = 94 ∨ x ∈ s.head? := by
  cases h <;> simp

theorem Escaped.nothing {s o : Str} (h : Escaped s o) (hn : s.any (fun c => (esc? c).isSome) = false) : o = s := by
  induction h with
  | nil => rfl
  | colour _ _ _ => simp [show esc? 94 = some 94 from rfl] at hn
  | esc he _ _ => simp [he] at hn
  | plain he _ ih => rw [ih (by simpa [he] using hn)]

theorem escape_eq_slow (s : Str) : escape s = escapeSlow s :=
  ite_eq_left_iff.2 fun h => ((escaped s).nothing (Bool.eq_false_iff.2 h)).symm

end Insim.Esc
