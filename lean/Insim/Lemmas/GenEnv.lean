import Insim.Model.LayoutEnv
import Insim.Lemmas.Layout
/-
What C02, C03 and C04 need to know about the regenerated environment of the hand-written codecs, without waiting for the
codecs to be proved lawful (Lemmas/Customs.lean).
-/
namespace Insim.Layout
open Insim

/-- the regenerated write tables hold 4-byte vehicle codes and 6-byte track codes -/
theorem genEnv_sized : genEnv.Sized := Env.sized_of_tables (by decide +kernel) (by decide +kernel)

end Insim.Layout
