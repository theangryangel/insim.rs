import Insim.Model.Layout
import Insim.Lemmas.Parser
/-
The generic codec of Model/Layout.lean, characterised once, for any environment: the decoders that hand on a rest as parser
terms (so that the closure lemmas of Lemmas/Parser.lean apply), one inversion per step of the model, `decTy` as a length check
followed by `decRaw` on exactly the field's bytes, the no-panic chain, what the text reader and writer do to NULs, and the
widths of what the writer writes. The round trips are in Lemmas/RoundTrip.lean.
-/

/-! The writer-side widths are named for the property whose statements mention them (C03). -/
namespace Insim.Props.C03
open Insim Insim.Layout

/-- writer-side width of a field type -/
def wTy : Ty → Nat
  | .dur _ _ ww _ => ww
  | .str _ wn _ _ _ => wn
  | ty => wireSize ty

/-- writer-side size of one field (pads included) -/
def wSize (f : Field) : Nat := f.wb + wTy f.ty + f.wa

def fieldsWSize : List Field → Nat
  | [] => 0
  | f :: fs => wSize f + fieldsWSize fs

end Insim.Props.C03

namespace Insim.Layout
open Insim Insim.Props.C03 Parser

variable {env : Env} {f : Field} {fs elt : List Field} {ty : Ty} {bs b r x : Bytes} {vs : List Val} {cnt k : Nat}

/-! ### the steps of the model, restated -/

theorem decFields_cons (env : Env) (f : Field) (fs : List Field) : decFields env (f :: fs) =
    seek f.rb (Parser.bind (decTy env f.ty) fun vs =>
      seek f.ra (Parser.bind (decFields env fs) fun ws => Parser.pure (vs ++ ws))) := by
  funext x
  simp only [decFields, seek, Parser.bind]
  cases decTy env f.ty (x.drop f.rb) <;> try rfl
  simp only [Out.ok_bind]
  cases decFields env fs (List.drop f.ra _) <;> rfl

theorem decFields_cons_ok_iff :
    decFields env (f :: fs) x = .ok (vs, r) ↔
      ∃ v1 r1 v2, decTy env f.ty (x.drop f.rb) = .ok (v1, r1) ∧ decFields env fs (r1.drop f.ra) = .ok (v2, r) ∧
        vs = v1 ++ v2 := by
  simp only [decFields_cons, seek, bind_eq_ok, pure_eq_ok]
  constructor
  · rintro ⟨v1, r1, h1, v2, r2, h2, rfl, rfl⟩; exact ⟨v1, r1, v2, h1, h2, rfl⟩
  · rintro ⟨v1, r1, v2, h1, h2, rfl⟩; exact ⟨v1, r1, h1, v2, r, h2, rfl, rfl⟩

theorem decFields_nil_ok_iff : decFields env [] x = .ok (vs, r) ↔ vs = [] ∧ r = x := by
  simp [decFields, eq_comm]

theorem encFields_cons_ok (h : encFields env cnt (f :: fs) vs = .ok bs) :
    ∃ b rest, encTy env f.ty cnt (vs.take (arity f.ty)) = .ok b ∧ encFields env cnt fs (vs.drop (arity f.ty)) = .ok rest ∧
      bs = List.replicate f.wb 0 ++ b ++ List.replicate f.wa 0 ++ rest := by
  rw [encFields] at h
  split at h <;> try cases h
  split at h <;> try cases h
  split at h <;> cases h
  exact ⟨_, _, ‹_›, ‹_›, rfl⟩

theorem encFields_nil_ok (h : encFields env cnt [] vs = .ok bs) : vs = [] ∧ bs = [] := by
  cases vs <;> simp_all [encFields]

theorem decTail_vec (env : Env) (elt : List Field) (oddR oddW : Nat) (cnt : Option Nat) (bs : Bytes) :
    decTail env (.vec elt oddR oddW) cnt bs = (decElems env elt (cnt.getD 0) bs).bind fun p => .ok (.elems p.1) := by
  simp only [decTail]; cases decElems env elt (cnt.getD 0) bs <;> rfl

theorem decTail_set (env : Env) (s : SetId) (cnt : Option Nat) (bs : Bytes) :
    decTail env (.set s) cnt bs = (decU32s (cnt.getD 0) bs).bind fun p => .ok (.set (dedup p.1 [])) := by
  simp only [decTail]; cases decU32s (cnt.getD 0) bs <;> rfl

theorem decBody_eq (env : Env) {L : Layout} (hb : L.customBody = false) (bs : Bytes) :
    decBody env L bs =
      (decFields env L.fields bs).bind fun p =>
        (decTail env L.tail (countOf L.fields p.1) p.2).bind fun tv => .ok { vals := p.1, tail := tv } := by
  simp only [decBody, hb]
  rcases decFields env L.fields bs with ⟨v, rest⟩ | _ | _ <;> try rfl
  simp only [Out.ok_bind]
  cases decTail env L.tail (countOf L.fields v) rest <;> rfl

theorem encBody_ok {L : Layout} {v : PVal} (hb : L.customBody = false) (h : encBody env L v = .ok bs) :
    ∃ b1 b2, encFields env (tailCount v.tail) L.fields v.vals = .ok b1 ∧ encTail env L.tail v.tail = .ok b2 ∧
      bs = b1 ++ b2 := by
  have hgo : encBody.go env L v = .ok bs := by
    revert h
    fun_cases encBody env L v <;> intro h
    · rename_i ht; rw [hb] at ht; cases ht   -- the hand-written body
    · cases h                                -- too many elements: refused
    · exact h
    · exact h
  revert hgo
  fun_cases encBody.go env L v <;> intro h <;> cases h
  exact ⟨_, _, ‹_›, ‹_›, rfl⟩

theorem writePacket_ok_iff {L : Layout} {v : PVal} :
    writePacket env L v = .ok bs ↔ ∃ b, encBody env L v = .ok b ∧ bs = L.typeNo :: b := by
  unfold writePacket; cases encBody env L v <;> simp [eq_comm]

theorem parsePacket_cons {all : List Layout} {t : Nat} {L : Layout} (h : all.find? (fun L => L.typeNo == t) = some L)
    (body : Bytes) : parsePacket env all (t :: body) = (decBody env L body).bind fun v => .ok (L, v) := by
  simp only [parsePacket, h]
  cases decBody env L body <;> rfl

/-! ### one field: the length check, then exactly its bytes -/

/-- the values of one field from exactly its `wireSize` bytes (`customDec` extended to every type) -/
def decRaw (env : Env) : Ty → Bytes → Out (List Val)
  | .bool8, raw => .ok [.n (if ofLe raw = 0 then 0 else 1)]
  | .spclose, raw => .ok [.n (ofLe raw % 4096)]
  | .enumU8 vals, raw => if memN (ofLe raw) vals then .ok [.n (ofLe raw)] else .err .decode
  | .flags _ mask, raw => .ok [.n (ofLe raw &&& mask)]
  | .dur _ rs _ _, raw => .ok [.n (Dur.readDur rs (ofLe raw))]
  | .str _ _ _ _ _, raw => .ok [.b (stripNul raw)]
  | .custom c, raw => customDec env c raw
  | _, raw => .ok [.n (ofLe raw)]

theorem decTy_eq (env : Env) (ty : Ty) (bs : Bytes) :
    decTy env ty bs =
      if bs.length < wireSize ty then .err .decode
      else (decRaw env ty (bs.take (wireSize ty))).bind fun vs => .ok (vs, bs.drop (wireSize ty)) := by
  simp only [decTy]
  split
  · rfl
  · cases ty <;> try rfl
    · simp only [decRaw]; split <;> rfl
    · simp only [decRaw]; cases customDec env _ _ <;> rfl

theorem decTy_ok_iff :
    decTy env ty x = .ok (vs, r) ↔
      wireSize ty ≤ x.length ∧ decRaw env ty (x.take (wireSize ty)) = .ok vs ∧ r = x.drop (wireSize ty) := by
  rw [decTy_eq]
  split
  · simp; omega
  · refine ⟨fun h => ?_, fun ⟨_, h, hr⟩ => by rw [h, hr]; rfl⟩
    obtain ⟨_, h1, h2⟩ := Out.bind_eq_ok.mp h
    cases h2; exact ⟨by omega, h1, rfl⟩

theorem decTy_append (env : Env) (r : Bytes) (hb : b.length = wireSize ty) :
    decTy env ty (b ++ r) = (decRaw env ty b).bind fun vs => .ok (vs, r) := by
  rw [decTy_eq, if_neg (by simp; omega), ← hb, List.take_left', List.drop_left'] <;> rfl

theorem decTy_stable (env : Env) (ty : Ty) : Stable (decTy env ty) := fun x vs r h y => by
  obtain ⟨hl, hd, rfl⟩ := decTy_ok_iff.mp h
  exact decTy_ok_iff.mpr ⟨by simp; omega, by rwa [List.take_append_of_le_length hl],
    (List.drop_append_of_le_length hl).symm⟩

theorem decTy_seeks (env : Env) (ty : Ty) : Seeks (decTy env ty) :=
  (decTy_stable env ty).seeks fun h => ⟨wireSize ty, (decTy_ok_iff.mp h).1, (decTy_ok_iff.mp h).2.2⟩

theorem decTy_hungry (env : Env) (h : 0 < wireSize ty) : Hungry (decTy env ty) :=
  fun _ _ h0 => by have := (decTy_ok_iff.mp h0).1; simp at this; omega

/-! ### field lists and counted vectors as parsers -/

theorem decFields_seeks (env : Env) : ∀ fs, Seeks (decFields env fs)
  | [] => .pure _
  | f :: fs => decFields_cons env f fs ▸
    ((decTy_seeks env f.ty).bind fun _ => ((decFields_seeks env fs).bind fun _ => .pure _).seek _).seek _

def posOk : List Field → Bool
  | [] => true
  | f :: fs => decide (0 < wireSize f.ty) && posOk fs

/-- field lists whose truncation is always noticed: every field has a positive width, and a field
with trailing padding is never the last one -/
def extOk : List Field → Bool
  | [] => true
  | f :: fs => decide (0 < wireSize f.ty) && (f.ra == 0 || !fs.isEmpty) && extOk fs

theorem extOk_pos : ∀ fs, extOk fs = true → posOk fs = true
  | [], _ => rfl
  | f :: fs, h => by
    simp only [extOk, posOk, Bool.and_eq_true] at h ⊢
    exact ⟨h.1.1, extOk_pos fs h.2⟩

theorem decFields_eats (env : Env) : ∀ {fs}, posOk fs = true → fs ≠ [] → ∀ {x r : Bytes} {vs : List Val},
    decFields env fs x = .ok (vs, r) → 1 + r.length ≤ x.length
  | f :: fs, h, _, x, r, vs, hd => by
    simp only [posOk, Bool.and_eq_true, decide_eq_true_eq] at h
    obtain ⟨v1, r1, v2, h1, h2, rfl⟩ := decFields_cons_ok_iff.1 hd
    obtain ⟨hl, -, rfl⟩ := decTy_ok_iff.mp h1
    have := ((decFields_seeks env fs).suffix h2).length_le
    simp only [List.length_drop] at *; omega

theorem decFields_hungry (env : Env) {fs : List Field} (hp : posOk fs = true) (hne : fs ≠ []) : Hungry (decFields env fs) :=
  fun _ _ h => by have := decFields_eats env hp hne h; simp at this

theorem decFields_stable (env : Env) : ∀ {fs}, extOk fs = true → Stable (decFields env fs)
  | [], _ => .pure _
  | f :: fs, h => by
    simp only [extOk, Bool.and_eq_true, decide_eq_true_eq, Bool.or_eq_true, beq_iff_eq, Bool.not_eq_true',
      List.isEmpty_eq_false_iff] at h
    obtain ⟨⟨hw, hra⟩, hfs⟩ := h
    rw [decFields_cons]
    -- the seek over the leading pad is followed by the field, which needs input; the seek over the trailing pad is either
    -- over nothing or followed by a non-empty field list, which needs input too
    refine Stable.seek ((decTy_stable env f.ty).bind fun _ =>
      Stable.seek ((decFields_stable env hfs).bind fun _ => .pure _) ?_) (.inr (decTy_hungry env hw).bind)
    exact hra.imp id fun hne => (decFields_hungry env (extOk_pos fs hfs) hne).bind

theorem decElems_eq_rep (env : Env) (elt : List Field) : ∀ k, decElems env elt k = rep (decFields env elt) k
  | 0 => rfl
  | k + 1 => by
    funext x
    simp only [decElems, rep, Parser.bind, decElems_eq_rep env elt k]
    cases decFields env elt x <;> try rfl
    simp only [Out.ok_bind]
    cases rep (decFields env elt) k _ <;> rfl

theorem decElems_seeks (env : Env) (elt : List Field) (k : Nat) : Seeks (decElems env elt k) :=
  decElems_eq_rep env elt k ▸ (decFields_seeks env elt).rep k

theorem decElems_stable (env : Env) (h : extOk elt = true) (k : Nat) : Stable (decElems env elt k) :=
  decElems_eq_rep env elt k ▸ (decFields_stable env h).rep k

/-- a vector of elements of positive width is no longer than the bytes it was read from -/
theorem decElems_eats (env : Env) (hp : posOk elt = true) (hne : elt ≠ []) {es : List (List Val)}
    (hd : decElems env elt k x = .ok (es, r)) : es.length + r.length ≤ x.length := by
  have := rep_eats (w := fun _ => 1) (decFields_eats env hp hne) (decElems_eq_rep env elt k ▸ hd)
  rwa [List.map_const', List.sum_replicate_nat, Nat.mul_one] at this

theorem encElems_eq_encRep (env : Env) (elt : List Field) : ∀ es, encElems env elt es = encRep (encFields env 0 elt) es
  | [] => rfl
  | e :: es => by
    simp only [encElems, encRep, encElems_eq_encRep env elt es]
    cases encFields env 0 elt e <;> try rfl
    simp only []
    cases encRep (encFields env 0 elt) es <;> rfl

/-- one 32-bit word: the element of `decU32s` and of `Files.decI32s` -/
def u32 : Parser Nat := fun x => if x.length < 4 then .err .decode else .ok (ofLe (x.take 4), x.drop 4)

theorem u32_ok_iff {c : Nat} : u32 x = .ok (c, r) ↔ 4 ≤ x.length ∧ c = ofLe (x.take 4) ∧ r = x.drop 4 := by
  unfold u32; split <;> simp [eq_comm] <;> omega

theorem u32_noPanic : NoPanic u32 := fun x => by unfold u32; split <;> exact nofun

theorem u32_stable : Stable u32 := fun x c r h y => by
  obtain ⟨hl, rfl, rfl⟩ := u32_ok_iff.1 h
  exact u32_ok_iff.2 ⟨by simp; omega, by rw [List.take_append_of_le_length hl], (List.drop_append_of_le_length hl).symm⟩

theorem u32_seeks : Seeks u32 := u32_stable.seeks fun h => ⟨4, (u32_ok_iff.1 h).1, (u32_ok_iff.1 h).2.2⟩

theorem u32_codec {c : Nat} (hc : c < 256 ^ 4) (r : Bytes) : u32 (leBytes 4 c ++ r) = .ok (c, r) :=
  u32_ok_iff.2 ⟨by simp, by rw [List.take_left' (leBytes_length 4 c), ofLe_leBytes 4 c hc],
    (List.drop_left' (leBytes_length 4 c)).symm⟩

theorem u32_read {c : Nat} (hx : IsBytes x) (h : u32 x = .ok (c, r)) : c < 256 ^ 4 ∧ x = leBytes 4 c ++ r := by
  obtain ⟨hl, rfl, rfl⟩ := u32_ok_iff.1 h
  have hraw : IsBytes (x.take 4) := fun b hb => hx b (List.mem_of_mem_take hb)
  have hlt := ofLe_lt _ hraw
  have hle := leBytes_ofLe _ hraw
  rw [List.length_take_of_le hl] at hlt hle
  exact ⟨hlt, by rw [hle, List.take_append_drop]⟩

theorem decU32s_eq_rep : ∀ k, decU32s k = rep u32 k
  | 0 => rfl
  | k + 1 => by
    funext x
    simp only [decU32s, rep, Parser.bind, decU32s_eq_rep k, u32]
    split <;> try rfl
    simp only [Out.ok_bind]
    cases rep u32 k (x.drop 4) <;> rfl

/-! ### never panics, whatever the bytes and the tables -/

theorem vehDecode_ne_panic (rows : List (Bytes × Vehicle.Name)) (b : Bytes) : Vehicle.decode rows b ≠ .panic := by
  fun_cases Vehicle.decode rows b <;> nofun

theorem trkDecode_ne_panic (rows : List (Bytes × Nat)) (b : Bytes) : Track.decode rows b ≠ .panic := by
  fun_cases Track.decode rows b <;> nofun

/-- every branch of the hand-written readers is an `ok` or an `err`, except the two that pass on what the vehicle and
track tables' readers return -/
theorem customDec_ne_panic (env : Env) (c : CustomId) (bs : Bytes) : customDec env c bs ≠ .panic := by
  fun_cases customDec env c bs
  case case3 h => exact absurd h (vehDecode_ne_panic _ _)
  case case6 h => exact absurd h (trkDecode_ne_panic _ _)
  all_goals nofun

theorem decTy_noPanic (env : Env) (ty : Ty) : NoPanic (decTy env ty) := fun bs => by
  rw [decTy_eq]
  split
  · nofun
  · refine Out.bind_ne_panic ?_ fun _ => nofun
    cases ty with
    | custom c => exact customDec_ne_panic _ _ _
    | enumU8 vals => simp only [decRaw]; split <;> nofun
    | _ => nofun

theorem decFields_noPanic (env : Env) : ∀ fs, NoPanic (decFields env fs)
  | [] => .pure _
  | f :: fs => decFields_cons env f fs ▸
    ((decTy_noPanic env f.ty).bind fun _ => ((decFields_noPanic env fs).bind fun _ => .pure _).seek _).seek _

theorem decElems_noPanic (env : Env) (elt : List Field) (k : Nat) : NoPanic (decElems env elt k) :=
  decElems_eq_rep env elt k ▸ (decFields_noPanic env elt).rep k

theorem decU32s_noPanic (k : Nat) : NoPanic (decU32s k) := decU32s_eq_rep k ▸ u32_noPanic.rep k

theorem decTail_ne_panic (env : Env) (t : Tail) (cnt : Option Nat) (bs : Bytes) : decTail env t cnt bs ≠ .panic := by
  cases t with
  | vec elt _ _ => rw [decTail_vec]; exact Out.bind_ne_panic (decElems_noPanic _ _ _ _) fun _ => nofun
  | set s => rw [decTail_set]; exact Out.bind_ne_panic (decU32s_noPanic _ _) fun _ => nofun
  | _ => nofun

theorem decMso_ne_panic (bs : Bytes) : decMso bs ≠ .panic := by
  fun_cases decMso bs <;> nofun

theorem decBody_ne_panic (env : Env) (L : Layout) (bs : Bytes) : decBody env L bs ≠ .panic := by
  cases hb : L.customBody with
  | true => simp only [decBody, hb]; exact decMso_ne_panic bs
  | false =>
    rw [decBody_eq env hb]
    exact Out.bind_ne_panic (decFields_noPanic _ _ _) fun _ => Out.bind_ne_panic (decTail_ne_panic _ _ _ _) fun _ => nofun

theorem parsePacket_ne_panic (env : Env) (all : List Layout) (bs : Bytes) : parsePacket env all bs ≠ .panic := by
  cases bs with
  | nil => nofun
  | cons t body =>
    cases h : all.find? (fun L => L.typeNo == t) with
    | none => simp only [parsePacket, h]; nofun
    | some L => rw [parsePacket_cons h]; exact Out.bind_ne_panic (decBody_ne_panic _ _ _) fun _ => nofun

/-! ### texts: the reader cuts at the first NUL, the writer pads with NULs -/

/-- the reader cuts at the first NUL: a NUL-free text followed by nothing, or by something starting with NUL, comes back -/
theorem stripNul_append {a b : Bytes} (ha : (0 : Nat) ∉ a) (hb : ∀ x ∈ b.head?, x = 0) : stripNul (a ++ b) = a := by
  induction a with
  | nil => cases b <;> simp_all [stripNul]
  | cons x xs ih =>
    simp only [List.mem_cons, not_or] at ha
    simp [stripNul, Ne.symm ha.1, ih ha.2]

theorem stripNul_padded (e : Bytes) (h : (0 : Nat) ∉ e) (k : Nat) : stripNul (e ++ List.replicate k 0) = e :=
  stripNul_append h (by cases k <;> simp [List.replicate])

theorem stripNul_eq_self {e : Bytes} (h : (0 : Nat) ∉ e) : stripNul e = e := by
  simpa using stripNul_append h (b := []) (by simp)

theorem stripNul_no_nul (x : Bytes) : (0 : Nat) ∉ stripNul x := by
  induction x with
  | nil => simp [stripNul]
  | cons b bs ih =>
    simp only [stripNul]; split
    · simp
    · rename_i hb; simp only [List.mem_cons, not_or]; exact ⟨fun h => hb h.symm, ih⟩

theorem stripNul_length_le (x : Bytes) : (stripNul x).length ≤ x.length := by
  induction x with
  | nil => simp [stripNul]
  | cons b bs ih => simp only [stripNul]; split <;> simp <;> omega

theorem writeStr_eq (n align : Nat) (e : Bytes) : ∃ k, writeStr n align e = e.take n ++ List.replicate k 0 := by
  unfold writeStr
  split
  · exact ⟨_, by rw [List.take_append, List.take_replicate]⟩
  · exact ⟨_, rfl⟩

theorem writeStr_fits (n align : Nat) (e : Bytes) (hl : e.length ≤ n) : ∃ k, writeStr n align e = e ++ List.replicate k 0 := by
  simpa [List.take_of_length_le hl] using writeStr_eq n align e

theorem writeStr_length {n align : Nat} (h : align ≤ 1) (e : Bytes) : (writeStr n align e).length = n := by
  simp only [writeStr, if_neg (Nat.not_lt.mpr h), List.length_append, List.length_replicate, List.length_take]
  omega

theorem writeStr_length_mod4 (wn : Nat) (e : Bytes) (hw : wn % 4 = 0) : (writeStr wn 4 e).length % 4 = 0 := by
  simp only [writeStr, show (4 : Nat) > 1 by decide, if_true, List.length_take, List.length_append, List.length_replicate]
  omega

theorem stripNul_writeStr (n align : Nat) {e : Bytes} (h0 : (0 : Nat) ∉ e) :
    stripNul (writeStr n align e) = e.take n := by
  obtain ⟨k, hk⟩ := writeStr_eq n align e
  rw [hk, stripNul_padded _ (fun h => h0 (List.mem_of_mem_take h)) k]

/-! ### what the writer writes has the writer-side width -/

/-- fixed texts must not be 4-aligned variable texts for the size to be constant -/
def fixedStr : Ty → Bool
  | .str _ _ _ _ align => decide (align ≤ 1)
  | _ => true

/-- every hand-written field codec writes its wire size -/
def Env.Sized (env : Env) : Prop := ∀ c vs bs, customEnc env c vs = .ok bs → bs.length = wireSize (.custom c)

theorem Env.sized_of_tables (hv : ∀ r ∈ env.vehWrite, r.2.length = 4) (ht : ∀ r ∈ env.trkWrite, r.2.length = 6) :
    env.Sized := by
  intro c vs bs h
  revert h
  fun_cases customEnc env c vs <;> intro h
  case case1 v _ =>   -- a vehicle: a row of the table, a mod's four bytes, or four zeros
    revert h
    fun_cases Vehicle.encode env.vehWrite v <;> intro h <;> cases h
    · exact hv _ (lookup_some_mem ‹_›)
    · exact leBytes_length 4 _
    · rfl
  case case3 =>       -- a track: a row of the table
    simp only [Track.encode] at h
    split at h <;> cases h
    exact ht _ (lookupN_some_mem ‹_›)
  case case17 =>      -- a game version: written like an unaligned text of width 8
    cases h; exact writeStr_length (n := 8) (align := 0) (Nat.zero_le 1) _
  -- every other alternative refuses or writes an explicit list
  all_goals cases h <;> simp [wireSize]

theorem encTy_length (hc : env.Sized) (hf : fixedStr ty = true) (h : encTy env ty cnt vs = .ok bs) :
    bs.length = wTy ty := by
  revert h
  fun_cases encTy env ty cnt vs <;> intro h
  case case12 => cases h; exact writeStr_length (of_decide_eq_true hf) _   -- a text
  case case14 => exact hc _ _ _ h                                          -- a hand-written codec
  -- every other alternative refuses, or writes `leBytes w _` or one byte
  all_goals cases h <;> simp [wTy, wireSize]

theorem encFields_length (hc : env.Sized) (hfx : ∀ f ∈ fs, fixedStr f.ty = true) :
    ∀ {vs bs}, encFields env cnt fs vs = .ok bs → bs.length = fieldsWSize fs := by
  induction fs with
  | nil => intro vs bs h; rw [(encFields_nil_ok h).2]; rfl
  | cons f fs ih =>
    intro vs bs h
    obtain ⟨b, rest, h1, h2, rfl⟩ := encFields_cons_ok h
    simp only [List.length_append, List.length_replicate, encTy_length hc (hfx f (by simp)) h1,
      ih (fun g hg => hfx g (by simp [hg])) h2, fieldsWSize, wSize]

theorem encElems_length (hc : env.Sized) (hfx : ∀ f ∈ elt, fixedStr f.ty = true) {es : List (List Val)} {bs : Bytes}
    (h : encElems env elt es = .ok bs) : bs.length = es.length * fieldsWSize elt :=
  encRep_length (fun _ _ => encFields_length hc hfx) (encElems_eq_encRep env elt es ▸ h)

end Insim.Layout
