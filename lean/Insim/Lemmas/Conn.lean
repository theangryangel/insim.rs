import Insim.Model.Conn
import Insim.Lemmas.Frame
/-
The read loop `Conn.run`: its equations on a buffer whose front is decided, `run_filter` (leaving transient faults aside, the
loop computes a function of the byte stream), `run_frames` (complete valid frames are delivered one by one), `run_faults`;
and, for the adaptors in front of the loop (C08, C20), scripts that hand over a list of chunks (`dataOf_data`, `endsEof_data`)
and the step of their conservation inductions (`served_cons`).
-/
namespace Insim.Conn
open Insim Insim.Frame

/-! `run` on a buffer whose front is decided: the equations of the definition, freed of the `h :` binder that its
termination proof needs -/

theorem run_frame {cfg : Cfg} {buf f rest : Bytes} (evs : List Ev) (h : split cfg.mode buf = .frame f rest) :
    run cfg buf evs = if cfg.parse f.tail = .panic then [.abort] else frameItems cfg f ++ run cfg rest evs := by
  rw [run.eq_def]; dsimp only; split <;> simp_all

theorem run_framing {cfg : Cfg} {buf : Bytes} (evs : List Ev) (h : split cfg.mode buf = .framing) :
    run cfg buf evs = [.err .framing] := by
  rw [run.eq_def]; dsimp only; split <;> simp_all

theorem run_eof {cfg : Cfg} {buf : Bytes} (evs : List Ev) (h : split cfg.mode buf = .needMore) :
    run cfg buf (.eof :: evs) = [.err .disconnected] := by
  rw [run.eq_def]; dsimp only; split <;> simp_all

/-- what a frame can produce: never a transport fault, never the end of the stream -/
theorem frameItems_inner (cfg : Cfg) (f : Bytes) :
    ∀ i ∈ frameItems cfg f, i.isFault = false ∧ i ≠ .err .disconnected := by
  unfold frameItems
  split
  · split
    · simp [Item.isFault]
    · split <;> simp [Item.isFault]
  · simp [Item.isFault]
  · simp [Item.isFault]

theorem filter_frameItems (cfg : Cfg) (f : Bytes) : (frameItems cfg f).filter (fun i => !i.isFault) = frameItems cfg f :=
  List.filter_eq_self.mpr fun i hi => by simp [(frameItems_inner cfg f i hi).1]

/-- **the read loop computes a function of the byte stream**: leaving the transient faults aside, any script
that ends the stream — any partition into reads, any `pending`, I/O errors and timeouts anywhere, any buffer
carried over — gives what a single read of all the bytes gives. No assumption on the bytes or the parser. -/
theorem run_filter (cfg : Cfg) (buf : Bytes) (evs : List Ev) (heof : EndsEof evs) :
    (run cfg buf evs).filter (fun i => !i.isFault) = run cfg (buf ++ dataOf evs) [.eof] := by
  -- the cases of `run`: a frame whose parse panics (1), a frame (2), a framing error (3); then, needing more data: the script
  -- is exhausted (4), `data` (5), `pending` (6), `ioErr` (7), `timeout` (8), `eof` (9)
  fun_induction run cfg buf evs with
  | case1 buf evs f rest hs hpanic => rw [run_frame _ (split_frame_more _ hs), if_pos hpanic]; rfl
  | case2 buf evs f rest hs hpanic ih =>
    rw [run_frame _ (split_frame_more _ hs), if_neg hpanic, List.filter_append, filter_frameItems, ih heof]
  | case3 buf evs hs => rw [run_framing _ (split_framing_more _ hs)]; rfl
  | case4 buf hs => cases heof
  | case5 buf bs evs' hs ih => rw [ih heof, dataOf, List.append_assoc]
  | case6 _ _ _ ih | case7 _ _ _ ih | case8 _ _ _ ih => exact ih heof
  | case9 buf hs evs' => rw [dataOf, List.append_nil, run_eof _ hs]; rfl

theorem run_frames (cfg : Cfg) (frames : List Bytes) (hv : ∀ f ∈ frames, ValidFrame cfg.mode f)
    (hp : ∀ f ∈ frames, cfg.parse f.tail ≠ .panic) (s : Bytes) (evs : List Ev) :
    run cfg (frames.flatten ++ s) evs = frames.flatMap (frameItems cfg) ++ run cfg s evs := by
  induction frames with
  | nil => rfl
  | cons f fs ih =>
    rw [List.flatten_cons, List.append_assoc, run_frame _ (split_complete _ f _ (hv f (by simp))),
      if_neg (hp f (by simp)), ih (fun g hg => hv g (by simp [hg])) (fun g hg => hp g (by simp [hg])),
      List.flatMap_cons, List.append_assoc]

/-- a run that reaches the end of the stream has reported every transient fault of the script, each once -/
theorem run_faults (cfg : Cfg) (buf : Bytes) (evs : List Ev) (h : .err .disconnected ∈ run cfg buf evs) :
    ((run cfg buf evs).filter Item.isFault).length = faultsOf evs := by
  -- cases numbered as in `run_filter`; (1), (3), (4) do not reach the end of the stream
  fun_induction run cfg buf evs with
  | case1 | case3 | case4 => simp at h
  | case2 buf evs f rest hs hpanic ih =>
    have hf := frameItems_inner cfg f
    rw [List.filter_append, List.filter_eq_nil_iff.mpr (fun i hi => by simp [(hf i hi).1]), List.nil_append]
    exact ih ((List.mem_append.mp h).resolve_left fun hi => (hf _ hi).2 rfl)
  | case5 _ _ _ _ ih | case6 _ _ _ ih => exact ih h
  | case7 _ _ _ ih | case8 _ _ _ ih => rw [List.filter_cons_of_pos rfl, List.length_cons, ih (by simpa using h)]; rfl
  | case9 => rfl

/-! a script that hands over the chunks `cs` one read at a time, then goes on as `evs` -/

theorem dataOf_data (cs : List Bytes) (evs : List Ev) : dataOf (cs.map .data ++ evs) = cs.flatten ++ dataOf evs := by
  induction cs with
  | nil => rfl
  | cons c cs ih => rw [List.map_cons, List.cons_append, dataOf, ih, List.flatten_cons, List.append_assoc]

theorem endsEof_data (cs : List Bytes) (evs : List Ev) : EndsEof (cs.map .data ++ evs) ↔ EndsEof evs := by
  induction cs with
  | nil => rfl
  | cons c cs ih => exact ih

/-- a chunk served in front of chunks that conserve the rest: together they conserve the whole -/
theorem served_cons {chunk rest total tail : Bytes} {cs : List Bytes}
    (hc : chunk ++ rest = total) (hr : cs.flatten ++ tail = rest) : (chunk :: cs).flatten ++ tail = total := by
  rw [List.flatten_cons, List.append_assoc, hr, hc]

end Insim.Conn
