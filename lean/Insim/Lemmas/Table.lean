import Insim.Base.Table
/-
One pass over four tables keyed alike.

`ks.all fun k => P k (lookupN k a) …` walks each table once per key. `allRows` takes every row out once it has been found, which
does not change what the later keys find; when the rows come in the order of the keys (the usual case for tables printed from a
`match`) every key is then found at the head, and the kernel evaluates the sweep in `|a|` steps, not `|ks| · |a|`. Nothing is
assumed about the order of the rows.
-/
namespace Insim

def eraseKey {β} (k : Nat) : List (Nat × β) → List (Nat × β)
  | [] => []
  | r :: rs => if Nat.beq r.1 k then rs else r :: eraseKey k rs

theorem lookupN_eraseKey {β} {k k' : Nat} (h : k' ≠ k) (t : List (Nat × β)) : lookupN k' (eraseKey k t) = lookupN k' t := by
  induction t with
  | nil => rfl
  | cons r rs ih =>
    obtain ⟨a, b⟩ := r
    by_cases ha : a = k
    · subst ha; simp [eraseKey, lookupN, Ne.symm h]
    · simp [eraseKey, lookupN, ha, ih]

/-- `P` at every key, given what the four tables hold for it (`none` = no row) -/
def allRows {α β γ δ} (P : Nat → Option α → Option β → Option γ → Option δ → Bool) :
    List Nat → List (Nat × α) → List (Nat × β) → List (Nat × γ) → List (Nat × δ) → Bool
  | [], _, _, _, _ => true
  | k :: ks, a, b, c, d => P k (lookupN k a) (lookupN k b) (lookupN k c) (lookupN k d) &&
      allRows P ks (eraseKey k a) (eraseKey k b) (eraseKey k c) (eraseKey k d)

theorem allRows_eq {α β γ δ} {P : Nat → Option α → Option β → Option γ → Option δ → Bool} {ks : List Nat} (h : ks.Nodup)
    (a : List (Nat × α)) (b : List (Nat × β)) (c : List (Nat × γ)) (d : List (Nat × δ)) :
    allRows P ks a b c d = ks.all fun k => P k (lookupN k a) (lookupN k b) (lookupN k c) (lookupN k d) := by
  induction ks generalizing a b c d with
  | nil => rfl
  | cons k ks ih =>
    obtain ⟨hk, hks⟩ := List.nodup_cons.mp h
    rw [allRows, ih hks, List.all_cons]
    congr 1
    rw [Bool.eq_iff_iff, List.all_eq_true, List.all_eq_true]
    refine forall₂_congr fun k' hk' => ?_
    have hne : k' ≠ k := fun e => hk (e ▸ hk')
    simp only [lookupN_eraseKey hne]

end Insim
