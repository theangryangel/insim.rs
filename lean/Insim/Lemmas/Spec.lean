import Insim.Model.Spec
import Insim.Lemmas.Layout
/-! Generic facts tying a layout's byte map (`Insim.Spec.codeMarks`) to what the generic codec writes and reads. -/

namespace Insim.Spec
open Insim Insim.Layout Insim.Props.C03

/-- spare marks are zero bytes, position by position -/
def SpareZero : List Mark → Bytes → Prop
  | [], [] => True
  | m :: ms, b :: bs => (m = .spare → b = 0) ∧ SpareZero ms bs
  | _, _ => False

theorem spareZero_append {m1 m2 : List Mark} {b1 b2 : Bytes} (h1 : SpareZero m1 b1) (h2 : SpareZero m2 b2) :
    SpareZero (m1 ++ m2) (b1 ++ b2) := by
  induction m1 generalizing b1 with
  | nil => cases b1 with
    | nil => exact h2
    | cons _ _ => cases h1
  | cons m ms ih => cases b1 with
    | nil => cases h1
    | cons b bs => exact ⟨h1.1, ih h1.2⟩

theorem spareZero_replicate (k : Nat) : SpareZero (List.replicate k .spare) (List.replicate k 0) := by
  induction k with
  | zero => trivial
  | succ k ih => exact ⟨fun _ => rfl, ih⟩

theorem spareZero_of_nospare {ms : List Mark} {bs : Bytes} (hl : ms.length = bs.length) (hn : ∀ m ∈ ms, m ≠ .spare) :
    SpareZero ms bs := by
  induction ms generalizing bs with
  | nil => cases bs with
    | nil => trivial
    | cons _ _ => cases hl
  | cons m ms ih => cases bs with
    | nil => cases hl
    | cons b bs =>
      exact ⟨fun h => absurd h (hn m (by simp)), ih (by simpa using hl) (fun x hx => hn x (by simp [hx]))⟩

theorem spareZero_length (ms : List Mark) (bs : Bytes) (h : SpareZero ms bs) : ms.length = bs.length := by
  induction ms generalizing bs with
  | nil => cases bs with
    | nil => rfl
    | cons _ _ => cases h
  | cons m ms ih => cases bs with
    | nil => cases h
    | cons b bs => simp [ih bs h.2]

theorem spareZero_get {ms : List Mark} {bs : Bytes} (h : SpareZero ms bs) {i : Nat} (hm : ms[i]? = some .spare) :
    bs[i]? = some 0 := by
  induction ms generalizing bs i with
  | nil => cases hm
  | cons m ms ih => cases bs with
    | nil => cases h
    | cons b bs =>
      cases i with
      | zero => simp at hm; simp [h.1 hm]
      | succ i => simp at hm ⊢; exact ih h.2 hm

/-! ### the byte map of a field list is the concatenation of its fields' maps: pad, body, pad -/

theorem widthOn_wr (ty : Ty) : widthOn .wr ty = wTy ty := by cases ty <;> rfl

/-- the body marks of a field: as long as the field is wide, and none of them `spare` -/
def bodyMarks (s : Side) (pre : Bytes) (f : Field) : List Mark :=
  match clsOf f.ty, widthOn s f.ty with
  | _, 0 => []
  | some (c, u), w' + 1 => .start (pre ++ normName f.path) c u (w' + 1) :: List.replicate w' .cont
  | none, w => List.replicate w .opaque

theorem fieldMarks_eq (s : Side) (pre : Bytes) (f : Field) :
    fieldMarks s pre f = List.replicate (padB s f) .spare ++ bodyMarks s pre f ++ List.replicate (padA s f) .spare := by
  unfold fieldMarks bodyMarks
  cases clsOf f.ty <;> cases widthOn s f.ty <;> rfl

theorem bodyMarks_length (s : Side) (pre : Bytes) (f : Field) : (bodyMarks s pre f).length = widthOn s f.ty := by
  unfold bodyMarks
  cases clsOf f.ty <;> cases widthOn s f.ty <;> simp

theorem bodyMarks_nospare (s : Side) (pre : Bytes) (f : Field) : ∀ m ∈ bodyMarks s pre f, m ≠ .spare := by
  intro m hm
  unfold bodyMarks at hm
  split at hm
  · cases hm
  · rcases List.mem_cons.mp hm with rfl | hm
    · nofun
    · rw [(List.mem_replicate.mp hm).2]; nofun
  · rw [(List.mem_replicate.mp hm).2]; nofun

theorem codeMarks_append (s : Side) (pre : Bytes) (fs gs : List Field) :
    codeMarks s pre (fs ++ gs) = codeMarks s pre fs ++ codeMarks s pre gs := by
  induction fs with
  | nil => rfl
  | cons f fs ih => simp [codeMarks, ih]

theorem codeMarks_cons_length (s : Side) (pre : Bytes) (f : Field) (fs : List Field) :
    (codeMarks s pre (f :: fs)).length = padB s f + widthOn s f.ty + padA s f + (codeMarks s pre fs).length := by
  simp [codeMarks, fieldMarks_eq, bodyMarks_length, Nat.add_assoc]

/-- the byte map of `gs ++ f :: post` has `f`'s start mark exactly where `f` is written / read -/
theorem codeMarks_start (s : Side) (pre : Bytes) (gs : List Field) (f : Field) (post : List Field) (c u w : Nat)
    (hc : clsOf f.ty = some (c, u)) (hw : widthOn s f.ty = w + 1) :
    (codeMarks s pre (gs ++ f :: post))[(codeMarks s pre gs).length + padB s f]? = some (.start (pre ++ normName f.path) c u (w + 1)) := by
  have hb : bodyMarks s pre f = .start (pre ++ normName f.path) c u (w + 1) :: List.replicate w .cont := by
    simp [bodyMarks, hc, hw]
  -- step over the map of `gs`, then over `f`'s leading pad: what stands there is the head of `f`'s body marks
  rw [codeMarks_append, codeMarks, fieldMarks_eq, hb, List.getElem?_append_right (Nat.le_add_right _ _), Nat.add_sub_cancel_left,
    List.append_assoc, List.append_assoc, List.getElem?_append_right (by simp)]
  simp

/-! ### what the writer puts there -/

/-- **spare bytes are written as zero**: whatever the values, the writer's output for a field list is
as long as its byte map and carries a zero byte at every `spare` mark -/
theorem enc_spare_zero {env : Env} (hs : env.Sized) {cnt : Nat} (pre : Bytes) {fields : List Field}
    (hfx : ∀ f ∈ fields, fixedStr f.ty = true) :
    ∀ {vs : List Val} {bs : Bytes}, encFields env cnt fields vs = .ok bs → SpareZero (codeMarks .wr pre fields) bs := by
  induction fields with
  | nil => intro vs bs h; rw [(encFields_nil_ok h).2]; trivial
  | cons f fs ih =>
    intro vs bs h
    obtain ⟨b, rest, h1, h2, rfl⟩ := encFields_cons_ok h
    have hl : (bodyMarks .wr pre f).length = b.length := by
      rw [bodyMarks_length, widthOn_wr, encTy_length hs (hfx f (by simp)) h1]
    rw [codeMarks, fieldMarks_eq]
    exact spareZero_append (spareZero_append (spareZero_append (spareZero_replicate _)
      (spareZero_of_nospare hl (bodyMarks_nospare .wr pre f))) (spareZero_replicate _))
      (ih (fun g hg => hfx g (by simp [hg])) h2)

/-- number of leaf values carried by a field list -/
def arities : List Field → Nat
  | [] => 0
  | f :: fs => arity f.ty + arities fs

/-- the writer's output for `gs ++ post` is an output for `gs`, as long as the byte map of `gs`, followed by the output for `post`
on the remaining values -/
theorem encFields_append_ok {env : Env} (hs : env.Sized) {cnt : Nat} (pre : Bytes) {gs post : List Field}
    (hfx : ∀ g ∈ gs, fixedStr g.ty = true) :
    ∀ {vs : List Val} {bs : Bytes}, encFields env cnt (gs ++ post) vs = .ok bs →
      ∃ a c, bs = a ++ c ∧ a.length = (codeMarks .wr pre gs).length ∧ encFields env cnt post (vs.drop (arities gs)) = .ok c := by
  induction gs with
  | nil => exact fun h => ⟨[], _, rfl, rfl, h⟩
  | cons g gs ih =>
    intro vs bs h
    obtain ⟨b, rest, h1, h2, rfl⟩ := encFields_cons_ok h
    obtain ⟨a, c, rfl, ha, hc⟩ := ih (fun x hx => hfx x (by simp [hx])) h2
    refine ⟨List.replicate g.wb 0 ++ b ++ List.replicate g.wa 0 ++ a, c, by simp, ?_, by rwa [arities, ← List.drop_drop]⟩
    simp only [List.length_append, List.length_replicate, codeMarks_cons_length, padB, padA, widthOn_wr, ha,
      encTy_length hs (hfx g (by simp)) h1]

/-! ### where the reader takes it from -/

/-- when `gs ++ post` decodes, `post` decodes on the input with as many bytes removed as the byte map of `gs` is long -/
theorem decFields_append_ok {env : Env} (pre : Bytes) {gs post : List Field} :
    ∀ {x : Bytes} {vs : List Val} {r : Bytes}, decFields env (gs ++ post) x = .ok (vs, r) →
      ∃ ws, decFields env post (x.drop (codeMarks .rd pre gs).length) = .ok (ws, r) := by
  induction gs with
  | nil => exact fun h => ⟨_, h⟩
  | cons g gs ih =>
    intro x vs r h
    obtain ⟨v, r1, ws, h1, h2, -⟩ := decFields_cons_ok_iff.mp h
    obtain ⟨ws', h3⟩ := ih h2
    refine ⟨ws', ?_⟩
    rw [(decTy_ok_iff.mp h1).2.2] at h3
    simpa only [codeMarks_cons_length, padB, padA, widthOn, List.drop_drop] using h3

/-! ### the comparison -/

/-- a layout conforms only to an entry the specification has -/
theorem specFor_isSome_of_conforms {tbl : List (Nat × Bytes × List (Bytes × Nat))} {spec : List SKind} {L : Layout}
    (h : conforms tbl spec L = true) : (specFor spec L.typeNo).isSome = true := by
  unfold conforms at h
  split at h
  · cases h
  · simp [*]

end Insim.Spec
