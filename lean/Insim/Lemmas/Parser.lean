import Insim.Base.Bytes
/-
Decoders as terms. A decoder takes bytes and returns a value and the rest; the model writes every step out as a
`match`, and each model decoder is proved equal to a term of `pure`, `lift`, `bind`, `seek` and `rep` once
(Lemmas/Layout.lean, Lemmas/Files.lean). A property that holds of the leaves and is kept by the combinators then
holds of every container: never panics (`NoPanic`), reads a prefix and may seek past the end (`Seeks`), leaves
what follows the input untouched (`Stable`; a seek past the end is harmless in front of a parser that needs input, `Hungry`).
Counted vectors (`rep`) are related to their writer (`encRep`) once.
-/
namespace Insim

abbrev Parser (α : Type) := Bytes → Out (α × Bytes)

namespace Parser
variable {α β : Type} {p : Parser α} {f : α → Parser β}

def pure (a : α) : Parser α := fun x => .ok (a, x)
def bind (p : Parser α) (f : α → Parser β) : Parser β := fun x => (p x).bind fun ar => f ar.1 ar.2
/-- binrw's `pad_before`/`pad_after` on read: `seek(Current(k))`, with no end-of-input check -/
def seek (k : Nat) (p : Parser α) : Parser α := fun x => p (x.drop k)
/-- `#[br(count = k)]` -/
def rep (p : Parser α) : Nat → Parser (List α)
  | 0 => pure []
  | k + 1 => bind p fun a => bind (rep p k) fun as => pure (a :: as)

/-- a check that reads nothing: binrw's assertions on what has been read so far -/
def lift : Option α → Parser α
  | some a => pure a
  | none => fun _ => .err .decode

theorem lift_eq_ok {o : Option α} {a : α} {x r : Bytes} : lift o x = .ok (a, r) ↔ o = some a ∧ r = x := by
  cases o <;> simp [lift, pure, eq_comm]

theorem bind_eq_ok {x : Bytes} {b : β} {r : Bytes} :
    bind p f x = .ok (b, r) ↔ ∃ a r1, p x = .ok (a, r1) ∧ f a r1 = .ok (b, r) := by
  simp [bind, Out.bind_eq_ok]

theorem pure_eq_ok {a b : α} {x r : Bytes} : pure a x = .ok (b, r) ↔ b = a ∧ r = x := by
  simp [pure, eq_comm]

theorem rep_succ_ok_iff {k : Nat} {x r : Bytes} {as : List α} :
    rep p (k + 1) x = .ok (as, r) ↔ ∃ a r1, p x = .ok (a, r1) ∧ ∃ as', rep p k r1 = .ok (as', r) ∧ as = a :: as' := by
  simp only [rep, bind_eq_ok, pure_eq_ok, exists_eq_right_right']

/-- `rep` is built from `pure` and `bind`: what those keep, it keeps -/
theorem rep_closed {P : ∀ {β : Type}, Parser β → Prop} (hpure : ∀ {β : Type} (b : β), P (pure b))
    (hbind : ∀ {β γ : Type} {p : Parser β} {f : β → Parser γ}, P p → (∀ a, P (f a)) → P (bind p f)) (hp : P p) :
    ∀ k, P (rep p k)
  | 0 => hpure _
  | k + 1 => hbind hp fun _ => hbind (rep_closed hpure hbind hp k) fun _ => hpure _

/-! ### never panics -/

def NoPanic (p : Parser α) : Prop := ∀ x, p x ≠ .panic

theorem NoPanic.pure (a : α) : NoPanic (pure a) := fun _ => nofun
theorem NoPanic.lift (o : Option α) : NoPanic (lift o) := fun _ => by cases o <;> exact nofun
theorem NoPanic.bind (hp : NoPanic p) (hf : ∀ a, NoPanic (f a)) : NoPanic (bind p f) :=
  fun x => Out.bind_ne_panic (hp x) fun ar => hf ar.1 ar.2
theorem NoPanic.seek (hp : NoPanic p) (k : Nat) : NoPanic (seek k p) := fun _ => hp _
theorem NoPanic.rep (hp : NoPanic p) (k : Nat) : NoPanic (Parser.rep p k) := rep_closed NoPanic.pure NoPanic.bind hp k

/-! ### reads a prefix, possibly seeking past the end -/

/-- on success `p` has moved `n` bytes on, and a longer input gives the same value from the same position -/
def Seeks (p : Parser α) : Prop :=
  ∀ ⦃x a r⦄, p x = .ok (a, r) → ∃ n, r = x.drop n ∧ ∀ y, p (x ++ y) = .ok (a, (x ++ y).drop n)

theorem Seeks.lift (o : Option α) : Seeks (lift o) := fun _ _ _ h => by
  obtain ⟨rfl, rfl⟩ := lift_eq_ok.1 h
  exact ⟨0, rfl, fun _ => rfl⟩

theorem Seeks.pure (a : α) : Seeks (pure a) := Seeks.lift (some a)

theorem Seeks.bind (hp : Seeks p) (hf : ∀ a, Seeks (f a)) : Seeks (bind p f) := by
  intro x b r h
  obtain ⟨a, r1, h1, h2⟩ := bind_eq_ok.1 h
  obtain ⟨n, rfl, e1⟩ := hp h1
  obtain ⟨m, rfl, e2⟩ := hf a h2
  refine ⟨n + m, List.drop_drop .., fun y => bind_eq_ok.2 ⟨a, _, e1 y, ?_⟩⟩
  rw [← List.drop_drop, List.drop_append (i := n), e2]

/-- `seek k p` is `bind (skip k) fun _ => p` -/
def skip (k : Nat) : Parser Unit := fun x => .ok ((), x.drop k)

theorem Seeks.skip (k : Nat) : Seeks (skip k) := fun _ _ _ h => by
  cases h; exact ⟨k, rfl, fun _ => rfl⟩

theorem Seeks.seek (hp : Seeks p) (k : Nat) : Seeks (seek k p) := (Seeks.skip k).bind fun _ => hp

theorem Seeks.rep (hp : Seeks p) (k : Nat) : Seeks (Parser.rep p k) := rep_closed Seeks.pure Seeks.bind hp k

theorem Seeks.suffix (hp : Seeks p) {x r : Bytes} {a : α} (h : p x = .ok (a, r)) : r <:+ x := by
  obtain ⟨n, rfl, _⟩ := hp h
  exact List.drop_suffix n x

theorem Seeks.isBytes (hp : Seeks p) {x r : Bytes} {a : α} (h : p x = .ok (a, r)) (hx : IsBytes x) : IsBytes r :=
  fun b hb => hx b ((hp.suffix h).subset hb)

/-- while something is left over, nothing was sought past the end -/
theorem Seeks.ext (hp : Seeks p) {x r : Bytes} {a : α} (h : p x = .ok (a, r)) (hr : r ≠ []) (y : Bytes) :
    p (x ++ y) = .ok (a, r ++ y) := by
  obtain ⟨n, rfl, e⟩ := hp h
  have : n ≤ x.length := Nat.le_of_lt (Nat.lt_of_not_le fun hn => hr (List.drop_eq_nil_of_le hn))
  rw [e, List.drop_append_of_le_length this]

/-! ### leaves what follows the input untouched -/

def Stable (p : Parser α) : Prop := ∀ ⦃x a r⦄, p x = .ok (a, r) → ∀ y, p (x ++ y) = .ok (a, r ++ y)

/-- `p` needs input: on nothing it does not succeed -/
def Hungry (p : Parser α) : Prop := ∀ a r, p [] ≠ .ok (a, r)

theorem Hungry.bind (hp : Hungry p) : Hungry (bind p f) := fun b r h => by
  obtain ⟨a, r1, h1, _⟩ := bind_eq_ok.1 h
  exact hp a r1 h1

theorem Stable.lift (o : Option α) : Stable (lift o) := fun _ _ _ h y => by
  obtain ⟨rfl, rfl⟩ := lift_eq_ok.1 h
  rfl

theorem Stable.pure (a : α) : Stable (pure a) := Stable.lift (some a)

theorem Stable.bind (hp : Stable p) (hf : ∀ a, Stable (f a)) : Stable (bind p f) := fun _ _ _ h y => by
  obtain ⟨a, r1, h1, h2⟩ := bind_eq_ok.1 h
  exact bind_eq_ok.2 ⟨a, _, hp h1 y, hf a h2 y⟩

/-- how the leaves get `Seeks`: they are stable and stay inside the input -/
theorem Stable.seeks (hs : Stable p) (hd : ∀ {x a r}, p x = .ok (a, r) → ∃ n, n ≤ x.length ∧ r = x.drop n) : Seeks p :=
  fun _ _ _ h => by
  obtain ⟨n, hn, rfl⟩ := hd h
  exact ⟨n, rfl, fun y => by rw [hs h y, List.drop_append_of_le_length hn]⟩

/-- a seek may run past the end only if nothing that needs input comes after it -/
theorem Seeks.bind_stable (hp : Seeks p) (hf : ∀ a, Stable (f a)) (hh : ∀ a, Hungry (f a)) : Stable (Parser.bind p f) :=
  fun _ b r h y => by
  obtain ⟨a, r1, h1, h2⟩ := bind_eq_ok.1 h
  have : r1 ≠ [] := fun hn => hh a b r (hn ▸ h2)
  exact bind_eq_ok.2 ⟨a, _, hp.ext h1 this y, hf a h2 y⟩

theorem Stable.seek (hp : Stable p) {k : Nat} (h : k = 0 ∨ Hungry p) : Stable (seek k p) := by
  rcases h with rfl | h
  · exact hp
  · exact (Seeks.skip k).bind_stable (fun _ => hp) fun _ => h

theorem Stable.rep (hp : Stable p) (k : Nat) : Stable (Parser.rep p k) := rep_closed Stable.pure Stable.bind hp k

theorem Stable.prefix_rejected (hs : Stable p) (hn : NoPanic p) {c t : Bytes} {a : α} (h : p (c ++ t) = .ok (a, t))
    {k : Nat} (hk : k < c.length) : ∃ e, p (c.take k) = .err e := by
  cases hq : p (c.take k) with
  | err e => exact ⟨e, rfl⟩
  | panic => exact absurd hq (hn _)
  | ok q =>
    have := hs (a := q.1) (r := q.2) hq (c.drop k ++ t)
    rw [← List.append_assoc, List.take_append_drop, h] at this
    have := congrArg List.length (Prod.mk.inj (Out.ok.inj this)).2
    simp at this; omega

/-! ### counted vectors against their writer -/

theorem rep_zero_ok_iff {x r : Bytes} {as : List α} : rep p 0 x = .ok (as, r) ↔ as = [] ∧ r = x := pure_eq_ok

theorem rep_length : ∀ {k : Nat} {x r : Bytes} {as : List α}, rep p k x = .ok (as, r) → as.length = k
  | 0, _, _, _, h => by rw [(rep_zero_ok_iff.1 h).1]; rfl
  | k + 1, _, _, _, h => by
    obtain ⟨a, r1, _, as', h2, rfl⟩ := rep_succ_ok_iff.1 h
    rw [List.length_cons, rep_length h2]

theorem rep_eats {w : α → Nat} (hp : ∀ {x a r}, p x = .ok (a, r) → w a + r.length ≤ x.length) :
    ∀ {k : Nat} {x r : Bytes} {as : List α}, rep p k x = .ok (as, r) → (as.map w).sum + r.length ≤ x.length
  | 0, _, _, _, h => by obtain ⟨rfl, rfl⟩ := rep_zero_ok_iff.1 h; simp
  | k + 1, x, _, _, h => by
    obtain ⟨a, r1, h1, as', h2, rfl⟩ := rep_succ_ok_iff.1 h
    have := hp h1
    have := rep_eats hp h2
    simp only [List.map_cons, List.sum_cons]; omega

def encRep (e : α → Out Bytes) : List α → Out Bytes
  | [] => .ok []
  | a :: as => (e a).bind fun b => (encRep e as).bind fun bs => .ok (b ++ bs)

theorem encRep_cons_ok_iff {e : α → Out Bytes} {a : α} {as : List α} {bs : Bytes} :
    encRep e (a :: as) = .ok bs ↔ ∃ b, e a = .ok b ∧ ∃ rest, encRep e as = .ok rest ∧ b ++ rest = bs := by
  simp only [encRep, Out.bind_eq_ok, Out.ok.injEq]

theorem encRep_length {e : α → Out Bytes} {n : Nat} (he : ∀ a b, e a = .ok b → b.length = n) :
    ∀ {as : List α} {bs : Bytes}, encRep e as = .ok bs → bs.length = as.length * n
  | [], _, h => by cases h; simp
  | a :: as, _, h => by
    obtain ⟨b, h1, rest, h2, rfl⟩ := encRep_cons_ok_iff.1 h
    rw [List.length_append, he a b h1, encRep_length he h2, List.length_cons, Nat.succ_mul, Nat.add_comm]

theorem encRep_flatMap (g : α → Bytes) : ∀ cs : List α, encRep (fun c => .ok (g c)) cs = .ok (cs.flatMap g)
  | [] => rfl
  | c :: cs => by simp only [encRep, encRep_flatMap g cs, Out.ok_bind, List.flatMap_cons]

theorem rep_roundtrip {e : α → Out Bytes} :
    ∀ {as : List α}, (∀ a ∈ as, ∀ b, e a = .ok b → ∀ r, p (b ++ r) = .ok (a, r)) →
      ∀ {bs : Bytes}, encRep e as = .ok bs → ∀ r, rep p as.length (bs ++ r) = .ok (as, r)
  | [], _, _, h, _ => by cases h; rfl
  | a :: as, hp, _, h, r => by
    obtain ⟨b, h1, rest, h2, rfl⟩ := encRep_cons_ok_iff.1 h
    obtain ⟨ha, has⟩ := List.forall_mem_cons.1 hp
    refine rep_succ_ok_iff.2 ⟨a, rest ++ r, ?_, as, rep_roundtrip has h2 r, rfl⟩
    rw [List.append_assoc, ha b h1]

theorem rep_codec {e : α → Out Bytes} {P : α → Prop}
    (hp : ∀ a, P a → ∃ b, e a = .ok b ∧ ∀ r, p (b ++ r) = .ok (a, r)) :
    ∀ as : List α, (∀ a ∈ as, P a) → ∃ b, encRep e as = .ok b ∧ ∀ r, rep p as.length (b ++ r) = .ok (as, r)
  | [], _ => ⟨[], rfl, fun _ => rfl⟩
  | a :: as, h => by
    obtain ⟨h1, h2⟩ := List.forall_mem_cons.1 h
    obtain ⟨b1, e1, d1⟩ := hp a h1
    obtain ⟨b2, e2, d2⟩ := rep_codec hp as h2
    refine ⟨b1 ++ b2, encRep_cons_ok_iff.2 ⟨b1, e1, b2, e2, rfl⟩, fun r => rep_succ_ok_iff.2 ⟨a, b2 ++ r, ?_, as, d2 r, rfl⟩⟩
    rw [List.append_assoc, d1]

/-- what a vector read from bytes is worth: every element is in-domain (`P`), and canonical input is what the writer
makes of the elements; `Ck k` says that `k` consecutive elements are canonical (`C`) -/
theorem rep_read {e : α → Out Bytes} {P : α → Prop} {C : Bytes → Prop} {Ck : Nat → Bytes → Prop} (hs : Seeks p)
    (hC : ∀ k x, Ck (k + 1) x → C x ∧ ∀ a r1, p x = .ok (a, r1) → Ck k r1)
    (hp : ∀ {x a r}, IsBytes x → p x = .ok (a, r) → P a ∧ (C x → ∃ b, e a = .ok b ∧ x = b ++ r)) :
    ∀ {k : Nat} {x r : Bytes} {as : List α}, IsBytes x → rep p k x = .ok (as, r) →
      (∀ a ∈ as, P a) ∧ (Ck k x → ∃ b, encRep e as = .ok b ∧ x = b ++ r)
  | 0, _, _, _, _, h => by obtain ⟨rfl, rfl⟩ := rep_zero_ok_iff.1 h; exact ⟨nofun, fun _ => ⟨[], rfl, rfl⟩⟩
  | k + 1, x, _, _, hx, h => by
    obtain ⟨a, r1, h1, as', h2, rfl⟩ := rep_succ_ok_iff.1 h
    obtain ⟨pa, ca⟩ := hp hx h1
    obtain ⟨pas, cas⟩ := rep_read hs hC hp (hs.isBytes h1 hx) h2
    refine ⟨List.forall_mem_cons.2 ⟨pa, pas⟩, fun hc => ?_⟩
    obtain ⟨c1, c2⟩ := hC k x hc
    obtain ⟨b1, e1, rfl⟩ := ca c1
    obtain ⟨b2, e2, rfl⟩ := cas (c2 a _ h1)
    exact ⟨b1 ++ b2, encRep_cons_ok_iff.2 ⟨b1, e1, b2, e2, rfl⟩, (List.append_assoc ..).symm⟩

end Parser
end Insim
