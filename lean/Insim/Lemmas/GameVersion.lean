import Insim.Model.GameVersion
/-
What the proofs know about Model/GameVersion.lean before any law on the float functions: the scanner `spanP`, decimal digits
(`natDigits` read back by `digitsVal` / `parseUsize`), the letter's case, and `parse` on a number followed by a letter.
-/
namespace Insim.GV
open Insim

/-- `spanP` stops in front of the first character that fails the test -/
theorem spanP_append (p : Nat → Bool) (pre rest : Str) (hp : ∀ x ∈ pre, p x = true) (hr : ∀ c ∈ rest.head?, p c = false) :
    spanP p (pre ++ rest) = (pre, rest) := by
  induction pre with
  | nil => cases rest with
    | nil => rfl
    | cons c cs => simp [spanP, hr c (by simp)]
  | cons x xs ih => simp [spanP, hp x, ih fun y hy => hp y (by simp [hy])]

theorem digit_isDigit {d : Nat} (h : d < 10) : isAsciiDigit (48 + d) = true := by
  simp [isAsciiDigit]; omega

theorem natDigits_digits (n : Nat) : ∀ c ∈ natDigits n, isAsciiDigit c = true := by
  fun_induction natDigits n with
  | case1 n h => simpa using digit_isDigit h
  | case2 n h ih =>
    intro c hc
    rcases List.mem_append.mp hc with hc | hc
    · exact ih c hc
    · rw [List.mem_singleton.mp hc]; exact digit_isDigit (Nat.mod_lt _ (by decide))

theorem digitsVal_append (a b : Str) (acc : Nat) : digitsVal (a ++ b) acc = digitsVal b (digitsVal a acc) := by
  induction a generalizing acc with
  | nil => rfl
  | cons x xs ih => simp [digitsVal, ih]

theorem digitsVal_natDigits (n : Nat) : digitsVal (natDigits n) 0 = n := by
  fun_induction natDigits n with
  | case1 n h => simp [digitsVal]
  | case2 n h ih => rw [digitsVal_append, ih]; simp [digitsVal]; omega

theorem natDigits_ne_nil (n : Nat) : natDigits n ≠ [] := by
  rw [natDigits]; split <;> simp

theorem lt_pow_natDigits (n : Nat) : n < 10 ^ (natDigits n).length := by
  induction n using Nat.strongRecOn with
  | _ n ih =>
    rw [natDigits]
    split
    · simp; omega
    · have := ih (n / 10) (by omega)
      rw [List.length_append, List.length_singleton, Nat.pow_succ]
      omega

theorem parseUsize_natDigits (n : Nat) (h : n < 2 ^ 64) : parseUsize (natDigits n) = some n := by
  simp [parseUsize, natDigits_ne_nil, List.all_eq_true.mpr (natDigits_digits n), digitsVal_natDigits, h]

theorem toAsciiUpper_range (c : Nat) (hc : isAsciiAlpha c = true) : 65 ≤ toAsciiUpper c ∧ toAsciiUpper c ≤ 90 := by
  simp only [isAsciiAlpha, Bool.or_eq_true, Bool.and_eq_true, decide_eq_true_eq] at hc
  unfold toAsciiUpper; split <;> omega

theorem upper_isAlpha {c : Nat} (h1 : 65 ≤ c) (h2 : c ≤ 90) : isAsciiAlpha c = true := by
  simp [isAsciiAlpha, h1, h2]

theorem toAsciiUpper_upper {c : Nat} (h : c ≤ 90) : toAsciiUpper c = c := by
  unfold toAsciiUpper; split <;> omega

theorem patchPhase_keeps (env : Env) (g g' : GV) (rest : Str) (h : patchPhase env g rest = .ok g') :
    g'.major = g.major ∧ g'.minor = g.minor := by
  unfold patchPhase at h
  split at h
  · cases h; exact ⟨rfl, rfl⟩
  split at h
  · cases h
  split at h
  · cases h; exact ⟨rfl, rfl⟩
  · cases h

/-- `parse` on a number followed by a letter: the number is `maj`, the letter is upper-cased, the rest is the revision -/
theorem parse_major_letter (env : Env) (maj : Str) (c : Nat) (rest : Str)
    (hm : ∀ x ∈ maj, isMajorChar env x = true) (hn : isMajorChar env c = false) (hc : isAsciiAlpha c = true) :
    parse env (maj ++ c :: rest) = match env.parseF maj with
      | none => .error .major
      | some bits => patchPhase env { major := bits, minor := toAsciiUpper c, patch := none } rest := by
  have hs := spanP_append (isMajorChar env) maj (c :: rest) hm (by simp [hn])
  obtain ⟨a, l, hal⟩ : ∃ a l, maj ++ c :: rest = a :: l := by cases maj <;> simp
  rw [hal] at hs ⊢
  simp only [parse, hs, hc]
  cases env.parseF maj <;> rfl

/-- the revision, printed, is read back -/
theorem patchPhase_natDigits (env : Env) (hnum : ∀ c, isAsciiDigit c = true → env.isNum c = true) (g : GV) (p : Nat)
    (hp : p < 2 ^ 64) : patchPhase env g (natDigits p) = .ok { g with patch := some p } := by
  have hsp := spanP_append env.isNum (natDigits p) [] (fun x hx => hnum x (natDigits_digits p x hx)) (by simp)
  rw [List.append_nil] at hsp
  cases hd : natDigits p with
  | nil => exact absurd hd (natDigits_ne_nil p)
  | cons d ds => simp only [patchPhase, ← hd, hsp, parseUsize_natDigits p hp]

end Insim.GV
