import Insim.Model.Files
import Insim.Lemmas.RoundTrip
/-
PTH and SMX containers. Each decoder is a `Parser` term over `decFields` (`decPth_eq`, `decObj_eq`, `decSmx_eq`), so
totality, extension and the size bounds come from the closure lemmas of Lemmas/Parser.lean. Against the writers there are two
facts per level: `_codec` (every in-domain value is written and reads back, whatever follows) and `_read` (what is read from
bytes is in-domain, and canonical bytes are what the writer makes of it).
-/
namespace Insim.Files
open Insim Insim.Layout Parser

/-- no hand-written codec occurs in the file formats -/
def NoC : CustomId → List Val → Prop := fun _ _ => False

theorem noC_lawful : CustomLawful noEnv NoC :=
  ⟨Env.sized_of_tables (by simp [noEnv]) (by simp [noEnv]), fun _ _ _ h => absurd h id⟩

/-- in-domain value lists for a field list whose `count` fields carry the given lengths, in order -/
def RepC : List Nat → List Field → List Val → Prop
  | _, [], vs => vs = []
  | cs, f :: fs, vs =>
    RepAny NoC (cntFor f.ty cs) f.ty (vs.take (arity f.ty)) ∧
    (∀ w s, f.ty = .count w s → cs ≠ []) ∧
    RepC (restCs f.ty cs) fs (vs.drop (arity f.ty))

/-- number of `count` fields of a field list -/
def nCounts : List Field → Nat
  | [] => 0
  | f :: fs => (match f.ty with | .count _ _ => 1 | _ => 0) + nCounts fs

/-- the field types that occur in the file formats -/
def fileTy : Ty → Bool
  | .uint _ => true | .sint _ => true | .f32 => true
  | .str _ _ _ _ _ => true | .count _ _ => true
  | _ => false

def isCount : Ty → Bool | .count _ _ => true | _ => false

/-- a text field is canonical when it is the writer's padding of its own content -/
def canonTy : Ty → Bytes → Prop
  | .str _ wn _ _ al, raw => writeStr wn al (stripNul raw) = raw
  | _, _ => True

/-- canonical bytes for a field list: pads are zero and texts are canonical -/
def CanonFields : List Field → Bytes → Prop
  | [], _ => True
  | f :: fs, x =>
    x.take f.rb = List.replicate f.rb 0 ∧
    canonTy f.ty ((x.drop f.rb).take (wireSize f.ty)) ∧
    ((x.drop f.rb).drop (wireSize f.ty)).take f.ra = List.replicate f.ra 0 ∧
    CanonFields fs (((x.drop f.rb).drop (wireSize f.ty)).drop f.ra)

/-! ### the side conditions on leaf layouts, checked by evaluation in `Props.C17` -/

/-- file field types, reader and writer attributes agree -/
abbrev fileOk (fs : List Field) : Prop := ∀ f ∈ fs, fileTy f.ty = true ∧ f.sym = true

abbrev hdrOk (fs : List Field) : Prop := fileOk fs ∧ extOk fs = true

/-- element layouts (Node, ObjectPoint, Triangle): no assertion, no count -/
abbrev eltOk (elt : List Field) : Prop :=
  fileOk elt ∧ (∀ f ∈ elt, f.maxv = none ∧ isCount f.ty = false) ∧ posOk elt = true ∧ elt ≠ []

/-- pad-free and text-free field lists: every byte string is canonical for them -/
abbrev canonFree (fs : List Field) : Prop :=
  ∀ f ∈ fs, f.rb = 0 ∧ f.ra = 0 ∧ (match f.ty with | .str _ _ _ _ _ => false | _ => true) = true

variable {lf : Leafs} {fs elt : List Field} {x r : Bytes} {k : Nat}

/-! ### field lists with several `calc`ed counts -/

theorem encTy_ok {ty : Ty} {cnt : Nat} {vs : List Val} (hf : fileTy ty = true) (hr : RepAny NoC cnt ty vs) :
    ∃ b, encTy noEnv ty cnt vs = .ok b := by
  cases ty with
  | count w s => exact ⟨_, rfl⟩
  | uint w | sint w | f32 => (match vs, hr with | [.n v], _ => exact ⟨_, rfl⟩)
  | str a b c d e => (match vs, hr with | [.b v], _ => exact ⟨_, rfl⟩)
  | _ => simp [fileTy] at hf

theorem fieldsC_codec : ∀ {fs : List Field}, fileOk fs → ∀ {cs : List Nat} {vs : List Val}, RepC cs fs vs →
    ∃ b, encFieldsC noEnv cs fs vs = .ok b ∧ ∀ r, decFields noEnv fs (b ++ r) = .ok (vs, r)
  | [], _, _, _, h => by cases h; exact ⟨[], rfl, fun _ => rfl⟩
  | f :: fs, hf, _, _, ⟨h1, _, h3⟩ => by
    obtain ⟨hft, hs⟩ := hf f List.mem_cons_self
    obtain ⟨b1, e1⟩ := encTy_ok hft h1
    obtain ⟨b2, e2, d2⟩ := fieldsC_codec (fun g hg => hf g (List.mem_cons_of_mem _ hg)) h3
    refine ⟨List.replicate f.wb 0 ++ b1 ++ List.replicate f.wa 0 ++ b2, by simp only [encFieldsC, e1, e2], fun r => ?_⟩
    obtain ⟨hrb, hra, hty⟩ := Field.sym_iff.mp hs
    have := decFields_cons_pads ⟨hrb, hra⟩ (decTy_encTy noC_lawful hty h1 e1) (d2 r)
    rwa [List.take_append_drop] at this

/-- one decoded field as the list level sees it: `cs` are the counts decoded from it and from what follows -/
theorem decTy_file {ty : Ty} (hf : fileTy ty = true) {r1 : Bytes} {v1 : List Val} (hx : IsBytes x)
    (h : decTy noEnv ty x = .ok (v1, r1)) {f : Field} (hty : f.ty = ty) (fs : List Field) (v2 : List Val) :
    v1.length = arity ty ∧ ∀ cs, cs = countsOf (f :: fs) (v1 ++ v2) →
      restCs ty cs = countsOf fs v2 ∧ RepAny NoC (cntFor ty cs) ty v1 ∧ (∀ w s, ty = .count w s → cs ≠ []) ∧
      (canonTy ty (x.take (wireSize ty)) → encTy noEnv ty (cntFor ty cs) v1 = .ok (x.take (wireSize ty))) := by
  obtain ⟨hl, h, -⟩ := decTy_ok_iff.mp h
  have hraw : IsBytes (x.take (wireSize ty)) := fun b hb => hx b (List.mem_of_mem_take hb)
  have hlt := ofLe_lt _ hraw
  have hle := leBytes_ofLe _ hraw
  rw [List.length_take_of_le hl] at hlt hle
  cases ty with
  | uint w | sint w | f32 =>
    cases h; refine ⟨rfl, ?_⟩; rintro _ rfl
    simp only [countsOf, hty, restCs, arity, List.singleton_append, List.drop_succ_cons, List.drop_zero]
    exact ⟨trivial, hlt, nofun, fun _ => congrArg _ hle⟩
  | count w s =>
    cases h; refine ⟨rfl, ?_⟩; rintro _ rfl
    simp only [countsOf, hty, restCs, cntFor, RepAny, arity, List.singleton_append, List.drop_succ_cons, List.drop_zero,
      List.tail_cons, List.headD_cons]
    exact ⟨trivial, ⟨trivial, hlt⟩, fun _ _ _ => List.cons_ne_nil _ _, fun _ => congrArg _ hle⟩
  | str a b c d e =>
    cases h; refine ⟨rfl, ?_⟩; rintro _ rfl
    simp only [countsOf, hty, restCs, arity, List.singleton_append, List.drop_succ_cons, List.drop_zero]
    exact ⟨trivial, ⟨Nat.le_trans (stripNul_length_le _) (List.length_take_le ..), stripNul_no_nul _⟩, nofun, fun hc => congrArg _ hc⟩
  | _ => simp [fileTy] at hf

theorem take_eq_replicate_len (x : Bytes) (k : Nat) (h : x.take k = List.replicate k 0) : k ≤ x.length := by
  have := congrArg List.length h
  simp at this; omega

/-- what a field list read from bytes is worth: the values are in-domain for the counts they carry, and canonical
bytes are what the writer makes of them -/
theorem decFields_file : ∀ {fs : List Field}, fileOk fs → ∀ {x r : Bytes} {vs : List Val},
    IsBytes x → decFields noEnv fs x = .ok (vs, r) →
      RepC (countsOf fs vs) fs vs ∧
      (CanonFields fs x → ∃ b, encFieldsC noEnv (countsOf fs vs) fs vs = .ok b ∧ x = b ++ r)
  | [], _, _, _, _, _, h => by cases h; exact ⟨rfl, fun _ => ⟨[], rfl, rfl⟩⟩
  | f :: fs, hf, x, r, _, hx, h => by
    obtain ⟨v1, r1, v2, h1, h2, rfl⟩ := decFields_cons_ok_iff.1 h
    obtain ⟨hft, hs⟩ := hf f List.mem_cons_self
    have hx1 : IsBytes (x.drop f.rb) := fun b hb => hx b (List.mem_of_mem_drop hb)
    obtain ⟨hlen, hcs⟩ := decTy_file hft hx1 h1 rfl fs v2
    obtain ⟨c1, c2, c3, c4⟩ := hcs _ rfl
    obtain ⟨-, -, rfl⟩ := decTy_ok_iff.mp h1
    obtain ⟨i1, i2⟩ := decFields_file (fun g hg => hf g (List.mem_cons_of_mem _ hg))
      (fun b hb => hx1 b (List.mem_of_mem_drop (List.mem_of_mem_drop hb))) h2
    refine ⟨⟨by rwa [List.take_left' hlen], c3, by rwa [List.drop_left' hlen, c1]⟩, fun ⟨k1, k2, k3, k4⟩ => ?_⟩
    obtain ⟨b', e', hx'⟩ := i2 k4
    obtain ⟨hrb, hra, -⟩ := Field.sym_iff.mp hs
    refine ⟨List.replicate f.wb 0 ++ (x.drop f.rb).take (wireSize f.ty) ++ List.replicate f.wa 0 ++ b', ?_, ?_⟩
    · simp only [encFieldsC, List.take_left' hlen, List.drop_left' hlen, c4 k2, c1, e']
    · -- the pads are what was read (zeros, `k1`, `k3`); pad, field, pad and the rest make up `x` again
      rw [← hrb, ← hra, ← k1, ← k3, List.append_assoc, List.append_assoc, List.append_assoc, ← hx',
        List.take_append_drop, List.take_append_drop, List.take_append_drop]

/-- the decoded counts are the lengths the writer filled in -/
theorem countsOf_rep : ∀ (fs : List Field) (cs : List Nat) (vs : List Val), RepC cs fs vs →
    countsOf fs vs = cs.take (nCounts fs)
  | [], _, _, _ => by simp [countsOf, nCounts]
  | f :: fs, cs, vs, ⟨h1, hne, h3⟩ => by
    have ih := countsOf_rep fs _ _ h3
    cases hty : f.ty with
    | count w s =>
      rw [hty] at h1 ih
      obtain ⟨hv, -⟩ := h1
      obtain ⟨c, cs', rfl⟩ := List.exists_cons_of_ne_nil (hne w s hty)
      match vs, hv with
      | v :: vs', hv =>
        cases hv
        simpa [countsOf, hty, nCounts, Nat.add_comm 1, restCs, cntFor] using ih
    | custom c => rw [hty] at h1; exact absurd h1 id
    | _ => simpa only [countsOf, hty, nCounts, Nat.zero_add, restCs] using ih

/-! ### element vectors -/

theorem encFields_eq_C : ∀ {elt : List Field}, (∀ f ∈ elt, f.maxv = none ∧ isCount f.ty = false) →
    ∀ (cs : List Nat) (vs : List Val), encFields noEnv 0 elt vs = encFieldsC noEnv cs elt vs
  | [], _, _, vs => by cases vs <;> rfl
  | f :: fs, h, cs, vs => by
    obtain ⟨h1, h2⟩ := h f List.mem_cons_self
    have e : cntFor f.ty cs = 0 ∧ restCs f.ty cs = cs := by
      cases hty : f.ty with
      | count w s => simp [hty, isCount] at h2
      | _ => exact ⟨rfl, rfl⟩
    simp only [encFields, encFieldsC, h1, e.1, e.2,
      encFields_eq_C (fun g hg => h g (List.mem_cons_of_mem _ hg)) cs]
    rfl

theorem countsOf_nil : ∀ {elt : List Field}, (∀ f ∈ elt, f.maxv = none ∧ isCount f.ty = false) → ∀ vs, countsOf elt vs = []
  | [], _, _ => rfl
  | f :: fs, h, vs => by
    have h2 := (h f List.mem_cons_self).2
    have ih := countsOf_nil (fun g hg => h g (List.mem_cons_of_mem _ hg))
    cases hty : f.ty with
    | count w s => simp [hty, isCount] at h2
    | _ => simp only [countsOf, hty, ih]

def RepElems (elt : List Field) (es : List (List Val)) : Prop := ∀ e ∈ es, RepC [] elt e

theorem elems_codec (h : eltOk elt) (es : List (List Val)) (hr : RepElems elt es) :
    ∃ b, encElems noEnv elt es = .ok b ∧ ∀ r, decElems noEnv elt es.length (b ++ r) = .ok (es, r) := by
  simp only [encElems_eq_encRep, decElems_eq_rep]
  exact rep_codec (fun e he => encFields_eq_C h.2.1 [] e ▸ fieldsC_codec h.1 he) es hr

theorem canonFree_canon : ∀ {fs : List Field}, canonFree fs → ∀ x, CanonFields fs x
  | [], _, _ => trivial
  | f :: fs, h, x => by
    obtain ⟨h1, h2, h3⟩ := h f List.mem_cons_self
    refine ⟨by rw [h1]; rfl, ?_, by rw [h2]; rfl, canonFree_canon (fun g hg => h g (List.mem_cons_of_mem _ hg)) _⟩
    cases hty : f.ty with
    | str => rw [hty] at h3; cases h3
    | _ => trivial

/-- canonical bytes for `k` consecutive elements -/
def CanonElems (elt : List Field) : Nat → Bytes → Prop
  | 0, _ => True
  | k + 1, x => CanonFields elt x ∧ ∀ vs r1, decFields noEnv elt x = .ok (vs, r1) → CanonElems elt k r1

theorem canonFree_canonElems (h : canonFree elt) : ∀ k x, CanonElems elt k x
  | 0, _ => trivial
  | k + 1, x => ⟨canonFree_canon h x, fun _ r1 _ => canonFree_canonElems h k r1⟩

theorem elems_read (h : eltOk elt) {es : List (List Val)} (hx : IsBytes x) (hd : decElems noEnv elt k x = .ok (es, r)) :
    RepElems elt es ∧ (CanonElems elt k x → ∃ b, encElems noEnv elt es = .ok b ∧ x = b ++ r) := by
  rw [decElems_eq_rep] at hd
  rw [encElems_eq_encRep]
  refine rep_read (decFields_seeks _ _) (Ck := CanonElems elt) (fun _ _ h => h) (fun hx he => ?_) hx hd
  have := decFields_file h.1 hx he
  rwa [countsOf_nil h.2.1, ← encFields_eq_C h.2.1] at this

theorem decElems_len (elt : List Field) :
    ∀ (k : Nat) (x : Bytes) (es : List (List Val)) (r : Bytes), decElems noEnv elt k x = .ok (es, r) →
      es.length = k ∧ r.length ≤ x.length :=
  fun k _ _ _ hd => ⟨rep_length (decElems_eq_rep noEnv elt k ▸ hd), ((decElems_seeks noEnv elt k).suffix hd).length_le⟩

/-! ### the magic bytes and the `calc`ed counts as parsers -/

theorem dropMagic_iff {m b : Bytes} : dropMagic m x = some b ↔ x = m ++ b := by
  unfold dropMagic
  constructor
  · intro h
    split at h
    · rename_i hm; cases h; exact (hm ▸ List.take_append_drop m.length x).symm
    · cases h
  · rintro rfl; simp

def magic (m : Bytes) : Parser Unit := fun x =>
  match dropMagic m x with
  | some b => .ok ((), b)
  | none => .err .decode

theorem magic_ok_iff {m : Bytes} {u : Unit} : magic m x = .ok (u, r) ↔ x = m ++ r := by
  rw [← dropMagic_iff]; unfold magic; split <;> simp [*]

theorem magic_noPanic (m : Bytes) : NoPanic (magic m) := fun x => by unfold magic; split <;> exact nofun

theorem magic_stable (m : Bytes) : Stable (magic m) := fun x _ r h y => by
  rw [magic_ok_iff] at h ⊢; rw [h, List.append_assoc]

/-- the one count of a header as an `i32`: negative is binrw's "count out of range" -/
def count1 : List Nat → Option Nat
  | [n] => if countOk n then some n else none
  | _ => none

def count2 : List Nat → Option (Nat × Nat)
  | [np, nt] => if countOk np && countOk nt then some (np, nt) else none
  | _ => none

theorem count1_eq_some {cs : List Nat} {n : Nat} : count1 cs = some n ↔ cs = [n] ∧ n < 2 ^ 31 := by
  fun_cases count1 cs <;> simp_all [countOk] <;> omega

theorem count2_eq_some {cs : List Nat} {n : Nat × Nat} : count2 cs = some n ↔ cs = [n.1, n.2] ∧ n.1 < 2 ^ 31 ∧ n.2 < 2 ^ 31 := by
  fun_cases count2 cs <;> simp_all [countOk, Prod.ext_iff] <;> omega

/-! ## PTH -/

theorem decPth_eq (lf : Leafs) : decPth lf =
    Parser.bind (magic lf.pthMagic) fun _ => Parser.bind (decFields noEnv lf.pthHeader) fun hv =>
      Parser.bind (lift (count1 (countsOf lf.pthHeader hv))) fun n =>
        Parser.bind (decElems noEnv lf.node n) fun ns => Parser.pure ⟨hv, ns⟩ := by
  funext x
  fun_cases decPth lf x <;> simp [magic, Parser.bind, lift, Out.bind, count1, Parser.pure, *]

theorem decPth_noPanic (lf : Leafs) : NoPanic (decPth lf) :=
  decPth_eq lf ▸ (magic_noPanic _).bind fun _ => (decFields_noPanic _ _).bind fun _ =>
    (NoPanic.lift _).bind fun _ => (decElems_noPanic _ _ _).bind fun _ => .pure _

/-- what a successful parse means, step by step; stated in parse order, which is the form `simp` brings the chain of
`bind`s to -/
theorem decPth_ok_iff {p : Pth} : decPth lf x = .ok (p, r) ↔
    ∃ b1, x = lf.pthMagic ++ b1 ∧ ∃ hv b2, decFields noEnv lf.pthHeader b1 = .ok (hv, b2) ∧
      ∃ n, countsOf lf.pthHeader hv = [n] ∧ n < 2 ^ 31 ∧
        ∃ ns, decElems noEnv lf.node n b2 = .ok (ns, r) ∧ p = ⟨hv, ns⟩ := by
  simp only [decPth_eq, bind_eq_ok, magic_ok_iff, lift_eq_ok, count1_eq_some, pure_eq_ok, and_assoc, exists_and_left,
    exists_eq_left, exists_eq_right_right', exists_const]

abbrev PthOk (lf : Leafs) : Prop :=
  hdrOk lf.pthHeader ∧ nCounts lf.pthHeader = 1 ∧ eltOk lf.node ∧ extOk lf.node = true

theorem decPth_stable (hok : PthOk lf) : Stable (decPth lf) :=
  decPth_eq lf ▸ (magic_stable _).bind fun _ => (decFields_stable _ hok.1.2).bind fun _ =>
    (Stable.lift _).bind fun _ => (decElems_stable _ hok.2.2.2 _).bind fun _ => .pure _

theorem pth_size_justified (hok : PthOk lf) {p : Pth} (h : decPth lf x = .ok (p, r)) :
    p.nodes.length + r.length ≤ x.length := by
  obtain ⟨-, -, ⟨-, -, hpos, hne⟩, -⟩ := hok
  obtain ⟨b1, rfl, hv, b2, h2, n, -, -, ns, h5, rfl⟩ := decPth_ok_iff.1 h
  have l1 := decElems_eats noEnv hpos hne h5
  have l2 := ((decFields_seeks _ _).suffix h2).length_le
  simp only [List.length_append]; omega

theorem pth_negative_count (lf : Leafs) (x b1 b2 : Bytes) (hv : List Val) (n : Nat)
    (h1 : dropMagic lf.pthMagic x = some b1) (h2 : decFields noEnv lf.pthHeader b1 = .ok (hv, b2))
    (h3 : countsOf lf.pthHeader hv = [n]) (h4 : 2 ^ 31 ≤ n) : decPth lf x = .err .decode := by
  have : countOk n = false := by simp [countOk]; omega
  simp [decPth, h1, h2, h3, this]

def RepPth (lf : Leafs) (p : Pth) : Prop :=
  RepC [p.nodes.length] lf.pthHeader p.header ∧ RepElems lf.node p.nodes ∧ p.nodes.length < 2 ^ 31

theorem pth_codec (hok : PthOk lf) (p : Pth) (hr : RepPth lf p) :
    ∃ b, encPth lf p = .ok b ∧ ∀ r, decPth lf (b ++ r) = .ok (p, r) := by
  obtain ⟨r1, r2, r3⟩ := hr
  obtain ⟨hb, e1, d1⟩ := fieldsC_codec hok.1.1 r1
  obtain ⟨nb, e2, d2⟩ := elems_codec hok.2.2.1 p.nodes r2
  have c1 := countsOf_rep lf.pthHeader _ _ r1
  rw [hok.2.1] at c1
  exact ⟨lf.pthMagic ++ hb ++ nb, by simp only [encPth, e1, e2], fun r => decPth_ok_iff.2
    ⟨hb ++ (nb ++ r), by simp only [List.append_assoc], _, _, d1 _, _, c1, r3, _, d2 r, rfl⟩⟩

abbrev PthCanonFree (lf : Leafs) : Prop := canonFree lf.pthHeader ∧ canonFree lf.node

/-- what a PTH file read from bytes is worth: it is in-domain, and it is written back byte for byte when no layout has
padding or text -/
theorem pth_read (hok : PthOk lf) (hx : IsBytes x) {p : Pth} (h : decPth lf x = .ok (p, r)) :
    RepPth lf p ∧ (PthCanonFree lf → ∃ b, encPth lf p = .ok b ∧ x = b ++ r) := by
  obtain ⟨b1, rfl, hv, b2, h2, n, h3, h4, ns, h5, rfl⟩ := decPth_ok_iff.1 h
  have hb1 : IsBytes b1 := fun b hb => hx b (List.mem_append_right _ hb)
  obtain ⟨q1, c1⟩ := decFields_file hok.1.1 hb1 h2
  obtain ⟨q2, c2⟩ := elems_read hok.2.2.1 ((decFields_seeks _ _).isBytes h2 hb1) h5
  obtain rfl := (decElems_len _ _ _ _ _ h5).1
  rw [h3] at q1 c1
  refine ⟨⟨q1, q2, h4⟩, fun hcf => ?_⟩
  obtain ⟨hb, e1, rfl⟩ := c1 (canonFree_canon hcf.1 _)
  obtain ⟨nb, e2, rfl⟩ := c2 (canonFree_canonElems hcf.2 _ _)
  exact ⟨lf.pthMagic ++ hb ++ nb, by simp only [encPth, e1, e2], by simp only [List.append_assoc]⟩

/-! ## SMX objects -/

theorem decObj_eq (lf : Leafs) : decObj lf =
    Parser.bind (decFields noEnv lf.objHeader) fun hv => Parser.bind (lift (count2 (countsOf lf.objHeader hv))) fun n =>
      Parser.bind (decElems noEnv lf.point n.1) fun ps => Parser.bind (decElems noEnv lf.triangle n.2) fun ts =>
        Parser.pure ⟨hv, ps, ts⟩ := by
  funext x
  fun_cases decObj lf x <;> simp [Parser.bind, lift, Out.bind, count2, Parser.pure, *]

theorem decObj_noPanic (lf : Leafs) : NoPanic (decObj lf) :=
  decObj_eq lf ▸ (decFields_noPanic _ _).bind fun _ => (NoPanic.lift _).bind fun _ =>
    (decElems_noPanic _ _ _).bind fun _ => (decElems_noPanic _ _ _).bind fun _ => .pure _

theorem decObj_seeks (lf : Leafs) : Seeks (decObj lf) :=
  decObj_eq lf ▸ (decFields_seeks _ _).bind fun _ => (Seeks.lift _).bind fun _ =>
    (decElems_seeks _ _ _).bind fun _ => (decElems_seeks _ _ _).bind fun _ => .pure _

theorem decObj_ok_iff {o : Obj} : decObj lf x = .ok (o, r) ↔
    ∃ hv b1, decFields noEnv lf.objHeader x = .ok (hv, b1) ∧
      ∃ np nt, countsOf lf.objHeader hv = [np, nt] ∧ np < 2 ^ 31 ∧ nt < 2 ^ 31 ∧
        ∃ ps b2, decElems noEnv lf.point np b1 = .ok (ps, b2) ∧
          ∃ ts, decElems noEnv lf.triangle nt b2 = .ok (ts, r) ∧ o = ⟨hv, ps, ts⟩ := by
  simp only [decObj_eq, bind_eq_ok, lift_eq_ok, count2_eq_some, pure_eq_ok, and_assoc, exists_and_left, exists_eq_left,
    exists_eq_right_right', Prod.exists]

abbrev ObjOk (lf : Leafs) : Prop :=
  hdrOk lf.objHeader ∧ nCounts lf.objHeader = 2 ∧ eltOk lf.point ∧ eltOk lf.triangle ∧ lf.objHeader ≠ []

theorem obj_size_justified (hok : ObjOk lf) {o : Obj} (h : decObj lf x = .ok (o, r)) :
    1 + o.points.length + o.triangles.length + r.length ≤ x.length := by
  obtain ⟨hh, -, ⟨-, -, hp, hpn⟩, ⟨-, -, ht, htn⟩, hne⟩ := hok
  obtain ⟨hv, b1, h2, np, nt, -, -, -, ps, b2, h5, ts, h6, rfl⟩ := decObj_ok_iff.1 h
  have l1 := decFields_eats noEnv (extOk_pos _ hh.2) hne h2
  have l2 := decElems_eats noEnv hp hpn h5
  have l3 := decElems_eats noEnv ht htn h6
  show 1 + ps.length + ts.length + r.length ≤ x.length
  omega

theorem obj_negative_count (lf : Leafs) (x b1 : Bytes) (hv : List Val) (np nt : Nat)
    (h2 : decFields noEnv lf.objHeader x = .ok (hv, b1))
    (h3 : countsOf lf.objHeader hv = [np, nt]) (h4 : 2 ^ 31 ≤ np ∨ 2 ^ 31 ≤ nt) : decObj lf x = .err .decode := by
  have : (countOk np && countOk nt) = false := by simp [countOk]; omega
  simp [decObj, h2, h3, this]

def RepObj (lf : Leafs) (o : Obj) : Prop :=
  RepC [o.points.length, o.triangles.length] lf.objHeader o.header ∧ RepElems lf.point o.points ∧
  RepElems lf.triangle o.triangles ∧ o.points.length < 2 ^ 31 ∧ o.triangles.length < 2 ^ 31

theorem obj_codec (hok : ObjOk lf) (o : Obj) (hr : RepObj lf o) :
    ∃ b, encObj lf o = .ok b ∧ ∀ r, decObj lf (b ++ r) = .ok (o, r) := by
  obtain ⟨hh, hn, hp, ht, -⟩ := hok
  obtain ⟨r1, r2, r3, r4, r5⟩ := hr
  obtain ⟨hb, e1, d1⟩ := fieldsC_codec hh.1 r1
  obtain ⟨pb, e2, d2⟩ := elems_codec hp o.points r2
  obtain ⟨tb, e3, d3⟩ := elems_codec ht o.triangles r3
  have c1 := countsOf_rep lf.objHeader _ _ r1
  rw [hn] at c1
  refine ⟨hb ++ pb ++ tb, by simp only [encObj, e1, e2, e3], fun r => decObj_ok_iff.2
    ⟨_, pb ++ (tb ++ r), ?_, _, _, c1, r4, r5, _, tb ++ r, d2 _, _, d3 r, rfl⟩⟩
  rw [List.append_assoc, List.append_assoc, d1]

/-- canonical bytes for one object: header, points and triangles -/
def CanonObj (lf : Leafs) (x : Bytes) : Prop :=
  CanonFields lf.objHeader x ∧
  ∀ hv b1 np nt, decFields noEnv lf.objHeader x = .ok (hv, b1) → countsOf lf.objHeader hv = [np, nt] →
    CanonElems lf.point np b1 ∧ ∀ ps b2, decElems noEnv lf.point np b1 = .ok (ps, b2) → CanonElems lf.triangle nt b2

theorem obj_read (hok : ObjOk lf) (hx : IsBytes x) {o : Obj} (h : decObj lf x = .ok (o, r)) :
    RepObj lf o ∧ (CanonObj lf x → ∃ b, encObj lf o = .ok b ∧ x = b ++ r) := by
  obtain ⟨hh, -, hp, ht, -⟩ := hok
  obtain ⟨hv, b1, h2, np, nt, h3, h4, h4', ps, b2, h5, ts, h6, rfl⟩ := decObj_ok_iff.1 h
  have hb1 := (decFields_seeks _ _).isBytes h2 hx
  obtain ⟨q1, c1⟩ := decFields_file hh.1 hx h2
  obtain ⟨q2, c2⟩ := elems_read hp hb1 h5
  obtain ⟨q3, c3⟩ := elems_read ht ((decElems_seeks _ _ _).isBytes h5 hb1) h6
  obtain rfl := (decElems_len _ _ _ _ _ h5).1
  obtain rfl := (decElems_len _ _ _ _ _ h6).1
  rw [h3] at q1 c1
  refine ⟨⟨q1, q2, q3, h4, h4'⟩, fun hcan => ?_⟩
  obtain ⟨k2, k3⟩ := hcan.2 _ b1 _ _ h2 h3
  obtain ⟨hb, e1, rfl⟩ := c1 hcan.1
  obtain ⟨pb, e2, rfl⟩ := c2 k2
  obtain ⟨tb, e3, rfl⟩ := c3 (k3 _ b2 h5)
  exact ⟨hb ++ pb ++ tb, by simp only [encObj, e1, e2, e3], by simp only [List.append_assoc]⟩

/-! ## object lists -/

theorem decObjs_eq_rep (lf : Leafs) : ∀ k, decObjs lf k = rep (decObj lf) k
  | 0 => rfl
  | k + 1 => by
    funext x
    simp only [decObjs, rep, Parser.bind, decObjs_eq_rep lf k]
    cases decObj lf x <;> try rfl
    simp only [Out.ok_bind]
    cases rep (decObj lf) k _ <;> rfl

theorem encObjs_eq_encRep (lf : Leafs) : ∀ os, encObjs lf os = encRep (encObj lf) os
  | [] => rfl
  | o :: os => by
    simp only [encObjs, encRep, encObjs_eq_encRep lf os]
    cases encObj lf o <;> try rfl
    simp only []
    cases encRep (encObj lf) os <;> rfl

theorem decObjs_noPanic (lf : Leafs) (k : Nat) : NoPanic (decObjs lf k) := decObjs_eq_rep lf k ▸ (decObj_noPanic lf).rep k
theorem decObjs_seeks (lf : Leafs) (k : Nat) : Seeks (decObjs lf k) := decObjs_eq_rep lf k ▸ (decObj_seeks lf).rep k

def objsWeight : List Obj → Nat
  | [] => 0
  | o :: os => 1 + o.points.length + o.triangles.length + objsWeight os

theorem objs_size_justified (hok : ObjOk lf) {os : List Obj} (h : decObjs lf k x = .ok (os, r)) :
    objsWeight os + r.length ≤ x.length := by
  rw [decObjs_eq_rep] at h
  have := rep_eats (w := fun o => 1 + o.points.length + o.triangles.length) (obj_size_justified hok) h
  have e : ∀ os : List Obj, (os.map fun o => 1 + o.points.length + o.triangles.length).sum = objsWeight os := by
    intro os; induction os with
    | nil => rfl
    | cons o os ih => simp only [List.map_cons, List.sum_cons, ih, objsWeight]
  rwa [e] at this

def RepObjs (lf : Leafs) (os : List Obj) : Prop := ∀ o ∈ os, RepObj lf o

theorem objs_codec (hok : ObjOk lf) (os : List Obj) (hr : RepObjs lf os) :
    ∃ b, encObjs lf os = .ok b ∧ ∀ r, decObjs lf os.length (b ++ r) = .ok (os, r) := by
  simp only [encObjs_eq_encRep, decObjs_eq_rep]
  exact rep_codec (obj_codec hok) os hr

def CanonObjs (lf : Leafs) : Nat → Bytes → Prop
  | 0, _ => True
  | k + 1, x => CanonObj lf x ∧ ∀ o r1, decObj lf x = .ok (o, r1) → CanonObjs lf k r1

theorem objs_read (hok : ObjOk lf) (hx : IsBytes x) {os : List Obj} (h : decObjs lf k x = .ok (os, r)) :
    RepObjs lf os ∧ (CanonObjs lf k x → ∃ b, encObjs lf os = .ok b ∧ x = b ++ r) :=
  encObjs_eq_encRep lf os ▸ rep_read (decObj_seeks lf) (Ck := CanonObjs lf) (fun _ _ h => h)
    (fun hx h => obj_read hok hx h) hx (decObjs_eq_rep lf k ▸ h)

/-! ## checkpoint indices -/

/-- the checkpoint indices are read by the same loop as the word sets of MAL / IPB -/
theorem decI32s_eq_decU32s : ∀ k, decI32s k = decU32s k
  | 0 => rfl
  | k + 1 => by
    funext x
    simp only [decI32s, decU32s, decI32s_eq_decU32s k]
    split <;> rfl

theorem decI32s_eq_rep (k : Nat) : decI32s k = rep u32 k := (decI32s_eq_decU32s k).trans (decU32s_eq_rep k)

def RepI32s (cs : List Nat) : Prop := ∀ c ∈ cs, c < 256 ^ 4

theorem i32s_codec (cs : List Nat) (hr : RepI32s cs) (r : Bytes) :
    decI32s cs.length (cs.flatMap (leBytes 4) ++ r) = .ok (cs, r) :=
  decI32s_eq_decU32s _ ▸ decU32s_flatMap cs r hr

/-- checkpoint indices have no non-canonical form: the bytes read are always the little-endian images -/
theorem i32s_read (hx : IsBytes x) {cs : List Nat} (h : decI32s k x = .ok (cs, r)) :
    RepI32s cs ∧ x = cs.flatMap (leBytes 4) ++ r := by
  obtain ⟨q, c⟩ := rep_read (e := fun c => .ok (leBytes 4 c)) (C := fun _ => True) (Ck := fun _ _ => True) u32_seeks
    (fun _ _ _ => ⟨trivial, fun _ _ _ => trivial⟩)
    (fun hx h => ⟨(u32_read hx h).1, fun _ => ⟨_, rfl, (u32_read hx h).2⟩⟩) hx (decI32s_eq_rep k ▸ h)
  obtain ⟨b, e, hb⟩ := c trivial
  rw [encRep_flatMap] at e
  cases e
  exact ⟨q, hb⟩

/-! ## SMX -/

theorem decSmx_eq (lf : Leafs) : decSmx lf =
    Parser.bind (magic lf.smxMagic) fun _ => Parser.bind (decFields noEnv lf.smxHeader) fun hv =>
      Parser.bind (lift (count1 (countsOf lf.smxHeader hv))) fun no => Parser.bind (decObjs lf no) fun os =>
        Parser.bind (decFields noEnv lf.checkpointCount) fun cv =>
          Parser.bind (lift (count1 (countsOf lf.checkpointCount cv))) fun nc =>
            Parser.bind (decI32s nc) fun cs => Parser.pure ⟨hv, os, cs⟩ := by
  funext x
  fun_cases decSmx lf x <;> simp [magic, Parser.bind, lift, Out.bind, count1, Parser.pure, *]

theorem decSmx_noPanic (lf : Leafs) : NoPanic (decSmx lf) :=
  decSmx_eq lf ▸ (magic_noPanic _).bind fun _ => (decFields_noPanic _ _).bind fun _ => (NoPanic.lift _).bind fun _ =>
    (decObjs_noPanic lf _).bind fun _ => (decFields_noPanic _ _).bind fun _ => (NoPanic.lift _).bind fun _ =>
      NoPanic.bind (decI32s_eq_rep _ ▸ u32_noPanic.rep _) fun _ => .pure _

theorem decSmx_ok_iff {s : Smx} : decSmx lf x = .ok (s, r) ↔
    ∃ b1, x = lf.smxMagic ++ b1 ∧ ∃ hv b2, decFields noEnv lf.smxHeader b1 = .ok (hv, b2) ∧
      ∃ no, countsOf lf.smxHeader hv = [no] ∧ no < 2 ^ 31 ∧ ∃ os b3, decObjs lf no b2 = .ok (os, b3) ∧
        ∃ cv b4, decFields noEnv lf.checkpointCount b3 = .ok (cv, b4) ∧
          ∃ nc, countsOf lf.checkpointCount cv = [nc] ∧ nc < 2 ^ 31 ∧
            ∃ cs, decI32s nc b4 = .ok (cs, r) ∧ s = ⟨hv, os, cs⟩ := by
  simp only [decSmx_eq, bind_eq_ok, magic_ok_iff, lift_eq_ok, count1_eq_some, pure_eq_ok, and_assoc, exists_and_left,
    exists_eq_left, exists_eq_right_right', exists_const]

/-- the checkpoint count is a single pad-free `i32` count -/
abbrev CkOk (lf : Leafs) : Prop :=
  hdrOk lf.checkpointCount ∧ canonFree lf.checkpointCount ∧ lf.checkpointCount.map (·.ty) = [.count 4 true]

abbrev SmxOk (lf : Leafs) : Prop := hdrOk lf.smxHeader ∧ nCounts lf.smxHeader = 1 ∧ ObjOk lf ∧ CkOk lf

theorem decSmx_stable (hok : SmxOk lf) : Stable (decSmx lf) := by
  obtain ⟨hh, -, -, hck, -, hty⟩ := hok
  rw [decSmx_eq]
  refine (magic_stable _).bind fun _ => (decFields_stable _ hh.2).bind fun _ => (Stable.lift _).bind fun _ =>
    -- the last triangle's padding may be sought past the end of the objects, not past the checkpoint count
    (decObjs_seeks lf _).bind_stable (fun _ => (decFields_stable _ hck.2).bind fun _ => (Stable.lift _).bind fun _ =>
      Stable.bind (decI32s_eq_rep _ ▸ u32_stable.rep _) fun _ => .pure _) fun _ => ?_
  exact (decFields_hungry _ (extOk_pos _ hck.2) fun hn => by rw [hn] at hty; cases hty).bind

theorem smx_size_justified (hok : SmxOk lf) {s : Smx} (h : decSmx lf x = .ok (s, r)) :
    objsWeight s.objects + 4 * s.checkpoints.length + r.length ≤ x.length := by
  obtain ⟨b1, rfl, hv, b2, h2, no, -, -, os, b3, h5, cv, b4, h6, nc, -, -, cs, h9, rfl⟩ := decSmx_ok_iff.1 h
  have l2 := ((decFields_seeks _ _).suffix h2).length_le
  have l3 := objs_size_justified hok.2.2.1 h5
  have l4 := ((decFields_seeks _ _).suffix h6).length_le
  have l5 := rep_eats (w := fun _ => 4) (fun h => by
    obtain ⟨hl, -, rfl⟩ := u32_ok_iff.1 h; simp only [List.length_drop]; omega) (decI32s_eq_rep _ ▸ h9)
  rw [List.map_const', List.sum_replicate_nat] at l5
  simp only [List.length_append]; omega

theorem smx_negative_object_count (lf : Leafs) (x b1 b2 : Bytes) (hv : List Val) (n : Nat)
    (h1 : dropMagic lf.smxMagic x = some b1) (h2 : decFields noEnv lf.smxHeader b1 = .ok (hv, b2))
    (h3 : countsOf lf.smxHeader hv = [n]) (h4 : 2 ^ 31 ≤ n) : decSmx lf x = .err .decode := by
  have : countOk n = false := by simp [countOk]; omega
  simp [decSmx, h1, h2, h3, this]

/-- in-domain values of a field list that is one `count` field: the count, and nothing else -/
theorem repC_count {f : Field} {w : Nat} {s : Bool} (hty : f.ty = .count w s) {cs : List Nat} {cv : List Val} :
    RepC cs [f] cv ↔ cs ≠ [] ∧ cv = [.n (cs.headD 0)] ∧ cs.headD 0 < 256 ^ w := by
  simp only [RepC, hty, arity]
  constructor
  · rintro ⟨⟨h1, h2⟩, h3, h4⟩
    exact ⟨h3 _ _ rfl, by rw [← List.take_append_drop 1 cv, h1, h4]; rfl, h2⟩
  · rintro ⟨h1, rfl, h2⟩
    exact ⟨⟨rfl, h2⟩, fun _ _ _ => h1, rfl⟩

def RepSmx (lf : Leafs) (s : Smx) : Prop :=
  RepC [s.objects.length] lf.smxHeader s.header ∧ RepObjs lf s.objects ∧ RepI32s s.checkpoints ∧
  s.objects.length < 2 ^ 31 ∧ s.checkpoints.length < 2 ^ 31

theorem smx_codec (hok : SmxOk lf) (s : Smx) (hr : RepSmx lf s) :
    ∃ b, encSmx lf s = .ok b ∧ ∀ r, decSmx lf (b ++ r) = .ok (s, r) := by
  obtain ⟨hh, hn, ho, hck, -, hty⟩ := hok
  obtain ⟨r1, r2, r3, r4, r5⟩ := hr
  obtain ⟨f, hf, hty⟩ := List.map_eq_singleton_iff.1 hty
  have rck : RepC [s.checkpoints.length] lf.checkpointCount [.n s.checkpoints.length] :=
    hf ▸ (repC_count hty).2 ⟨List.cons_ne_nil _ _, rfl, by show s.checkpoints.length < 256 ^ 4; omega⟩
  have c3 : countsOf lf.checkpointCount [.n s.checkpoints.length] = [s.checkpoints.length] := by
    rw [hf]; simp only [countsOf, hty]
  obtain ⟨hb, e1, d1⟩ := fieldsC_codec hh.1 r1
  obtain ⟨ob, e2, d2⟩ := objs_codec ho s.objects r2
  obtain ⟨cb, e3, d3⟩ := fieldsC_codec hck.1 rck
  have c1 := countsOf_rep lf.smxHeader _ _ r1
  rw [hn] at c1
  refine ⟨lf.smxMagic ++ hb ++ ob ++ cb ++ s.checkpoints.flatMap (leBytes 4), by simp only [encSmx, e1, e2, e3], fun r =>
    decSmx_ok_iff.2 ⟨_, ?_, _, _, d1 _, _, c1, r4, _, _, d2 _, _, _, d3 _, _, c3, r5, _, i32s_codec s.checkpoints r3 r, rfl⟩⟩
  simp only [List.append_assoc]

/-- an SMX file is canonical when every pad byte the parser skips is zero and the track name is
NUL-padded without junk after the terminator -/
def SmxCanonical (lf : Leafs) (x : Bytes) : Prop :=
  ∀ b1, dropMagic lf.smxMagic x = some b1 → CanonFields lf.smxHeader b1 ∧
    ∀ hv b2 no, decFields noEnv lf.smxHeader b1 = .ok (hv, b2) → countsOf lf.smxHeader hv = [no] → CanonObjs lf no b2

theorem smx_read (hok : SmxOk lf) (hx : IsBytes x) {s : Smx} (h : decSmx lf x = .ok (s, r)) :
    RepSmx lf s ∧ (SmxCanonical lf x → ∃ b, encSmx lf s = .ok b ∧ x = b ++ r) := by
  obtain ⟨hh, -, ho, hck, hccf, hty⟩ := hok
  obtain ⟨f, hf, hty⟩ := List.map_eq_singleton_iff.1 hty
  obtain ⟨b1, rfl, hv, b2, h2, no, h3, h4, os, b3, h5, cv, b4, h6, nc, h7, h8, cs, h9, rfl⟩ := decSmx_ok_iff.1 h
  have hb1 : IsBytes b1 := fun b hb => hx b (List.mem_append_right _ hb)
  have hb2 := (decFields_seeks _ _).isBytes h2 hb1
  have hb3 := (decObjs_seeks _ _).isBytes h5 hb2
  obtain ⟨q1, c1⟩ := decFields_file hh.1 hb1 h2
  obtain ⟨q2, c2⟩ := objs_read ho hb2 h5
  obtain ⟨q3, c3⟩ := decFields_file hck.1 hb3 h6
  obtain ⟨q4, rfl⟩ := i32s_read ((decFields_seeks _ _).isBytes h6 hb3) h9
  obtain rfl := rep_length (decObjs_eq_rep _ _ ▸ h5)
  obtain rfl := rep_length (decI32s_eq_rep _ ▸ h9)
  rw [h3] at q1 c1
  rw [h7] at q3 c3
  obtain rfl : cv = [.n cs.length] := ((repC_count hty).1 (hf ▸ q3)).2.1
  refine ⟨⟨q1, q2, q4, h4, h8⟩, fun hcan => ?_⟩
  obtain ⟨k1, k2⟩ := hcan b1 (dropMagic_iff.2 rfl)
  obtain ⟨hb, e1, rfl⟩ := c1 k1
  obtain ⟨ob, e2, rfl⟩ := c2 (k2 _ _ _ h2 h3)
  obtain ⟨cb, e3, rfl⟩ := c3 (canonFree_canon hccf _)
  exact ⟨lf.smxMagic ++ hb ++ ob ++ cb ++ cs.flatMap (leBytes 4), by simp only [encSmx, e1, e2, e3],
    by simp only [List.append_assoc]⟩

end Insim.Files
