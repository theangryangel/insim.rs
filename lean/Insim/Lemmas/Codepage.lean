import Insim.Model.Codepage
/-
What the proofs know about Model/Codepage before any law on the codecs: the encoder as an iterated step
(`Step`, `encGo_cons`, on `findCp_sound` / `findCp_none`), its fast path for all-ASCII text (`toBytes_eq_encGo`), the decoder's
three moves (`decGo_step`, `decGo_skip`, `decGo_marker`) and the plan the driver prints for it (`plan_sound`). `encEnd` and `encGo_append`, which the typed-text layer (Lemmas/Text.lean) is stated with, are in its namespace `Insim.Text`.
-/
namespace Insim.Text
open Insim.Cp

/-- the codepage the encoder is left in after `s` -/
def encEnd (cp : Mk → CP) (order : List Mk) : Mk → Str → Mk
  | cur, [] => cur
  | cur, c :: cs =>
    if isAscii c then encEnd cp order cur cs
    else match (cp cur).enc c with
      | some _ => encEnd cp order cur cs
      | none => match findCp cp cur c order with
        | some (x, _) => encEnd cp order x cs
        | none => encEnd cp order cur cs

end Insim.Text

namespace Insim.Cp
open Insim.Text

theorem mk_byte (x : Mk) : mk? x.byte = some (x, false) := by cases x <;> decide

theorem findCp_sound {cp : Mk → CP} {cur : Mk} {c : Nat} {l : List Mk} {x : Mk} {bs : Bytes}
    (h : findCp cp cur c l = some (x, bs)) : (cp x).enc c = some bs := by
  induction l with
  | nil => cases h
  | cons y ys ih =>
    simp only [findCp] at h
    split at h
    · exact ih h
    · split at h
      · cases h; assumption
      · exact ih h

theorem findCp_none {cp : Mk → CP} {cur : Mk} {c : Nat} {l : List Mk} (hcur : (cp cur).enc c = none) :
    findCp cp cur c l = none ↔ ∀ x ∈ l, (cp x).enc c = none := by
  induction l with
  | nil => simp [findCp]
  | cons y ys ih =>
    simp only [findCp]
    split
    · simp [ih, ‹y = cur›, hcur]
    · split <;> simp [*]

/-- what one character does to the encoder in codepage `cur`: the codepage it is left in and the bytes it emits -/
inductive Step (cp : Mk → CP) (order : List Mk) (cur : Mk) (c : Nat) : Mk → Bytes → Prop
  | ascii : isAscii c = true → Step cp order cur c cur [c]
  | same {bs} : isAscii c = false → (cp cur).enc c = some bs → Step cp order cur c cur bs
  | switch {x bs} : (cp x).enc c = some bs → Step cp order cur c x (94 :: x.byte :: bs)
  | lost : isAscii c = false → (∀ x ∈ order, (cp x).enc c = none) → Step cp order cur c cur [63]

theorem encGo_cons (cp : Mk → CP) (order : List Mk) (cur : Mk) (c : Nat) :
    ∃ x bs, Step cp order cur c x bs ∧
      ∀ cs, encGo cp order cur (c :: cs) = bs ++ encGo cp order x cs ∧ encEnd cp order cur (c :: cs) = encEnd cp order x cs := by
  by_cases ha : isAscii c = true
  · exact ⟨cur, [c], .ascii ha, fun cs => by simp [encGo, encEnd, ha]⟩
  · cases he : (cp cur).enc c with
    | some bs => exact ⟨cur, bs, .same (by simpa using ha) he, fun cs => by simp [encGo, encEnd, ha, he]⟩
    | none =>
      cases hf : findCp cp cur c order with
      | some p =>
        exact ⟨p.1, _, .switch (findCp_sound hf), fun cs => by simp [encGo, encEnd, ha, he, hf]⟩
      | none =>
        exact ⟨cur, [63], .lost (by simpa using ha) ((findCp_none he).mp hf), fun cs => by simp [encGo, encEnd, ha, he, hf]⟩

theorem decGo_step (cp : Mk → CP) (cur : Mk) (acc : Bytes) (b : Nat) (rest : Bytes)
    (h : b = 94 → ∀ x ∈ rest.head?, mk? x = none) :
    decGo cp cur acc (b :: rest) = decGo cp cur (acc ++ [b]) rest := by
  cases rest with
  | nil => simp [decGo]
  | cons x xs =>
    by_cases hb : b = 94
    · simp [decGo, h hb x rfl]
    · simp [decGo, hb]

theorem decGo_skip (cp : Mk → CP) (cur : Mk) (acc bs rest : Bytes) (h : (94 : Nat) ∉ bs) :
    decGo cp cur acc (bs ++ rest) = decGo cp cur (acc ++ bs) rest := by
  induction bs generalizing acc with
  | nil => simp
  | cons b bs ih =>
    simp only [List.mem_cons, not_or] at h
    rw [List.cons_append, decGo_step _ _ _ _ _ (fun e => absurd e.symm h.1), ih _ h.2]; simp

theorem decGo_marker (cp : Mk → CP) (cur : Mk) (acc : Bytes) {x : Nat} {m : Mk} {keep : Bool} (rest : Bytes)
    (hm : mk? x = some (m, keep)) :
    decGo cp cur acc (94 :: x :: rest) = (cp cur).dec acc ++ (if keep then [94, 56] else []) ++ decGo cp m [] rest := by
  simp [decGo, hm]

/-- all-ASCII text: the slow path produces the text itself, so the fast path is no special case -/
theorem encGo_ascii (cp : Mk → CP) (order : List Mk) (cur : Mk) (s : Str) (h : s.all isAscii = true) :
    encGo cp order cur s = s := by
  induction s with
  | nil => rfl
  | cons c cs ih =>
    simp only [List.all_cons, Bool.and_eq_true] at h
    simp [encGo, h.1, ih h.2]

theorem toBytes_eq_encGo (cp : Mk → CP) (order : List Mk) (s : Str) : toBytes cp order s = encGo cp order .L s :=
  ite_eq_right_iff.2 fun h => (encGo_ascii cp order .L s h).symm

/-- the printed plan is what the decoder does -/
theorem plan_sound (cp : Mk → CP) (cur : Mk) (acc bs : Bytes) :
    (planGo cur acc bs).flatMap (Seg.run cp) = decGo cp cur acc bs := by
  -- end of input (1), a single last byte (2), a caret and a marker (3), a caret and no marker (4), any other byte (5)
  fun_induction planGo cur acc bs with
  | case1 | case2 => simp [decGo, Seg.run]
  | case3 cur acc x rest m keep hm ih =>
    simp only [decGo, hm, List.flatMap_cons, List.flatMap_append, ih]
    cases keep <;> simp [Seg.run]
  | case4 cur acc x rest hm ih => simp only [decGo, if_true, hm, ih]
  | case5 cur acc b x rest hb ih => simp only [decGo, hb, if_false, ih]

end Insim.Cp

namespace Insim.Text
open Insim.Cp

/-- the encoder works left to right: the bytes of a prefix are a prefix of the bytes -/
theorem encGo_append (cp : Mk → CP) (order : List Mk) (a b : Str) (cur : Mk) :
    encGo cp order cur (a ++ b) = encGo cp order cur a ++ encGo cp order (encEnd cp order cur a) b := by
  induction a generalizing cur with
  | nil => simp [encGo, encEnd]
  | cons c cs ih =>
    obtain ⟨x, bs, -, h⟩ := encGo_cons cp order cur c
    simp [h, ih]

end Insim.Text
