import Insim.Lemmas.Layout
/-
Round trips of the generic codec: for an arbitrary environment whose hand-written codecs are lawful
(`CustomLawful`) and a layout satisfying the decidable predicate `Layout.wf` (reader and writer attributes agree,
`Field.sym`), decoding what the writer produced from in-domain values (`RepTy` … `RepBody`, `RepMso`) returns them.
The regenerated layouts are checked against `Layout.wf` in Props/C01.lean (`all_wf`).
-/
namespace Insim.Layout
open Insim Insim.Props.C03 Parser

variable {env : Env} {f : Field} {fs elt : List Field} {ty : Ty} {bs b r x : Bytes} {vs : List Val} {cnt k : Nat}

/-- reader and writer sides of a field type agree -/
def Ty.sym : Ty → Bool
  | .dur rw rs ww ws => rw == ww && rs == ws && decide (0 < rs)
  | .str rn wn rraw wraw align => rn == wn && rraw == wraw && decide (align ≤ 1)
  | _ => true

def Field.sym (f : Field) : Bool := f.rb == f.wb && f.ra == f.wa && f.ty.sym

theorem Ty.sym_width (h : ty.sym = true) : fixedStr ty = true ∧ wTy ty = wireSize ty := by
  cases ty <;> simp_all [Ty.sym, fixedStr, wTy, wireSize]

theorem Field.sym_iff : f.sym = true ↔ f.rb = f.wb ∧ f.ra = f.wa ∧ f.ty.sym = true := by
  simp [Field.sym, and_assoc]

/-- in-domain ("representable on the wire") values of a non-custom field type -/
def RepTy : Ty → List Val → Prop
  | .uint w, [.n v] => v < 256 ^ w
  | .sint w, [.n v] => v < 256 ^ w
  | .f32, [.n v] => v < 256 ^ 4
  | .bool8, [.n v] => v ≤ 1
  | .char8, [.n v] => v < 256
  | .spclose, [.n v] => v < 4096
  | .enumU8 vals, [.n v] => memN v vals = true ∧ v < 256
  | .flags w mask, [.n v] => v &&& mask = v ∧ v < 256 ^ w
  | .dur rw rs _ _, [.n ms] => ms % rs = 0 ∧ ms / rs < 256 ^ rw
  | .str rn _ _ _ _, [.b e] => e.length ≤ rn ∧ (0 : Nat) ∉ e
  | _, _ => False

theorem ofLe_single (x : Nat) : ofLe [x] = x := by simp [ofLe]

theorem arity_simple (ty : Ty) (vs : List Val) (h : RepTy ty vs) : arity ty = 1 := by
  cases ty <;> first | rfl | (simp [RepTy] at h)

/-- what must hold of the hand-written codecs for them to plug into the generic proof: they write their wire size
(whatever the values), and on their domain `CRep` reading returns what was written -/
structure CustomLawful (env : Env) (CRep : CustomId → List Val → Prop) : Prop where
  size : env.Sized
  inv : ∀ c vs bs, CRep c vs → customEnc env c vs = .ok bs → customDec env c bs = .ok vs

/-- in-domain values of any field type: `cnt` is the element count the packet's `count` field must carry -/
def RepAny (CRep : CustomId → List Val → Prop) (cnt : Nat) : Ty → List Val → Prop
  | .count w _, vs => vs = [.n cnt] ∧ cnt < 256 ^ w
  | .custom c, vs => CRep c vs
  | ty, vs => RepTy ty vs

variable {CRep : CustomId → List Val → Prop}

/-- **one field round-trips**, on exactly its bytes -/
theorem decRaw_encTy (LW : CustomLawful env CRep) (hs : ty.sym = true) (hr : RepAny CRep cnt ty vs)
    (he : encTy env ty cnt vs = .ok bs) : decRaw env ty bs = .ok vs := by
  -- the domain fixes the shape of the values; all other combinations have `hr : False`
  match ty, vs, hr with
  | .custom c, vs, hr => exact LW.inv c vs bs hr he
  | .count w _, _, ⟨rfl, hc⟩ => cases he; simp [decRaw, ofLe_leBytes w cnt hc]
  | .uint w, [.n v], hr | .sint w, [.n v], hr => cases he; simp [decRaw, ofLe_leBytes w v hr]
  | .f32, [.n v], hr => cases he; simp [decRaw, ofLe_leBytes 4 v hr]
  | .flags w mask, [.n v], hr => cases he; simp [decRaw, ofLe_leBytes w v hr.2, hr.1]
  | .spclose, [.n v], hr =>
    have hr : v < 4096 := hr
    cases he; simp [decRaw, ofLe_leBytes 2 v (by omega), Nat.mod_eq_of_lt hr]
  | .char8, [.n v], hr => cases he; simp [decRaw, ofLe, Nat.mod_eq_of_lt (show v < 256 from hr)]
  | .enumU8 vals, [.n v], hr => cases he; simp [decRaw, ofLe, Nat.mod_eq_of_lt hr.2, hr.1]
  | .bool8, [.n v], hr =>
    cases he
    obtain rfl | rfl : v = 0 ∨ v = 1 := by simp only [RepAny, RepTy] at hr; omega
    all_goals simp [decRaw, ofLe]
  | .dur rw rs ww ws, [.n ms], hr =>
    simp only [Ty.sym, Bool.and_eq_true, beq_iff_eq] at hs
    obtain ⟨⟨rfl, rfl⟩, -⟩ := hs
    simp only [encTy, Dur.writeDur, hr.2] at he
    cases he
    simp [decRaw, ofLe_leBytes rw _ hr.2, Dur.readDur, Nat.div_mul_cancel (Nat.dvd_of_mod_eq_zero hr.1)]
  | .str rn wn _ _ align, [.b e], hr =>
    simp only [Ty.sym, Bool.and_eq_true, beq_iff_eq] at hs
    obtain ⟨⟨rfl, -⟩, -⟩ := hs
    cases he
    simp [decRaw, stripNul_writeStr rn align hr.2, List.take_of_length_le hr.1]

theorem decTy_encTy (LW : CustomLawful env CRep) (hs : ty.sym = true) (hr : RepAny CRep cnt ty vs)
    (he : encTy env ty cnt vs = .ok bs) (r : Bytes) : decTy env ty (bs ++ r) = .ok (vs, r) := by
  have hw := Ty.sym_width hs
  rw [decTy_append env r (by rw [encTy_length LW.size hw.1 he, hw.2]), decRaw_encTy LW hs hr he]; rfl

/-- in-domain values of a field list -/
def RepFields (CRep : CustomId → List Val → Prop) (cnt : Nat) : List Field → List Val → Prop
  | [], vs => vs = []
  | f :: fs, vs =>
    RepAny CRep cnt f.ty (vs.take (arity f.ty)) ∧
    maxvOk f.maxv vs = true ∧
    RepFields CRep cnt fs (vs.drop (arity f.ty))

/-- the induction step of every field-list round trip: a field whose reader and writer pads agree is read back from
`pads ++ bytes ++ pads` and leaves what follows -/
theorem decFields_cons_pads (hf : f.rb = f.wb ∧ f.ra = f.wa) {v1 v2 : List Val} {rest : Bytes}
    (h1 : ∀ t, decTy env f.ty (b ++ t) = .ok (v1, t)) (h2 : decFields env fs (rest ++ r) = .ok (v2, r)) :
    decFields env (f :: fs) (List.replicate f.wb 0 ++ b ++ List.replicate f.wa 0 ++ rest ++ r) = .ok (v1 ++ v2, r) := by
  refine decFields_cons_ok_iff.mpr ⟨v1, List.replicate f.wa 0 ++ (rest ++ r), v2, ?_, ?_, rfl⟩
  · rw [hf.1, List.append_assoc, List.append_assoc, List.append_assoc, List.drop_left' List.length_replicate]
    exact h1 _
  · rw [hf.2, List.drop_left' List.length_replicate]; exact h2

/-- **field lists round-trip**: for every field list whose reader and writer attributes agree and
every in-domain value list, decoding what the writer produced (followed by anything) returns the
values and exactly the rest -/
theorem decFields_encFields (LW : CustomLawful env CRep) (hsym : ∀ f ∈ fs, f.sym = true) :
    ∀ {vs bs} (r : Bytes), RepFields CRep cnt fs vs → encFields env cnt fs vs = .ok bs →
      decFields env fs (bs ++ r) = .ok (vs, r) := by
  induction fs with
  | nil => intro vs bs r _ he; obtain ⟨rfl, rfl⟩ := encFields_nil_ok he; rfl
  | cons f fs ih =>
    intro vs bs r ⟨h1, _, h3⟩ he
    obtain ⟨b, rest, hb, hrest, rfl⟩ := encFields_cons_ok he
    obtain ⟨hrb, hra, hty⟩ := Field.sym_iff.mp (hsym f (by simp))
    rw [← List.take_append_drop (arity f.ty) vs]
    exact decFields_cons_pads ⟨hrb, hra⟩ (decTy_encTy LW hty h1 hb) (ih (fun g hg => hsym g (by simp [hg])) r h3 hrest)

/-! ### tails and whole bodies -/

theorem decElems_encElems (LW : CustomLawful env CRep) (hsym : ∀ f ∈ elt, f.sym = true) {es : List (List Val)} {bs : Bytes}
    (r : Bytes) (hr : ∀ e ∈ es, RepFields CRep 0 elt e) (he : encElems env elt es = .ok bs) :
    decElems env elt es.length (bs ++ r) = .ok (es, r) :=
  decElems_eq_rep env elt _ ▸ rep_roundtrip (fun e h _ hb r => decFields_encFields LW hsym r (hr e h) hb)
    (encElems_eq_encRep env elt es ▸ he) r

/-- some field is a `count` (`Layout.wf` asks it of a packet with a vector or set tail, and forbids it in an element) -/
def hasCount : List Field → Bool
  | [] => false
  | f :: fs => (match f.ty with | .count _ _ => true | _ => false) || hasCount fs

theorem countOf_rep (hc : hasCount fs = true) (hr : RepFields CRep cnt fs vs) : countOf fs vs = some cnt := by
  fun_induction countOf fs vs with
  | case1 => cases hc
  | case2 f fs w s v tl hty =>
    -- the count field carries `cnt`
    have h1 := hr.1
    rw [hty] at h1
    cases h1.1; rfl
  | case3 f fs vs hne ih =>
    -- not a count field with a number in front: then no count field at all, and the count is further on
    refine ih ?_ hr.2.2
    cases hty : f.ty with
    | count w s =>
      have h1 := hr.1
      rw [hty] at h1
      cases vs with
      | nil => cases h1.1
      | cons a tl => cases h1.1; exact (hne w s cnt tl hty rfl).elim
    | _ => simpa [hasCount, hty] using hc

theorem decU32s_flatMap (xs : List Nat) (r : Bytes) (h : ∀ x ∈ xs, x < 256 ^ 4) :
    decU32s xs.length (xs.flatMap (leBytes 4) ++ r) = .ok (xs, r) :=
  decU32s_eq_rep _ ▸ rep_roundtrip (fun c hc _ hb => by cases hb; exact u32_codec (h c hc)) (encRep_flatMap _ xs) r

/-- well-formedness of a layout (decidable). The round trip needs the fields and the elements to be symmetric and a vector or
set to come with a count; that elements carry no count, that the odd-count padding agrees and the clause on until-end-of-frame
texts are checks of the declarations in their own right. -/
def Layout.wf (L : Layout) : Bool :=
  L.fields.all Field.sym &&
  (match L.tail with
   | .none => true
   | .vec elt oddR oddW => elt.all Field.sym && !hasCount elt && hasCount L.fields && oddR == oddW
   | .set _ => hasCount L.fields
   | .strEof wn rraw wraw align => rraw == wraw && (align == 4 || align ≤ 1) && wn % 4 == 0)

/-- in-domain packet bodies: fixed-size kinds, counted vectors, sets of 32-bit words (first occurrences only,
as the crate's `IndexSet` keeps them) and until-end-of-frame texts (NUL-free, within the maximum) -/
def RepBody (CRep : CustomId → List Val → Prop) (L : Layout) (v : PVal) : Prop :=
  RepFields CRep (tailCount v.tail) L.fields v.vals ∧
  (match L.maxElems with | some m => tailCount v.tail ≤ m | none => True) ∧
  (match L.tail, v.tail with
   | .none, .none => True
   | .vec elt _ _, .elems es => ∀ e ∈ es, RepFields CRep 0 elt e
   | .set _, .set xs => (∀ x ∈ xs, x < 256 ^ 4) ∧ dedup xs [] = xs
   | .strEof wn _ _ _, .text e => e.length ≤ wn ∧ (0 : Nat) ∉ e
   | _, _ => False)

/-- **bodies round-trip** (every tail shape): decoding the writer's output returns the packet -/
theorem decBody_encBody (LW : CustomLawful env CRep) {L : Layout} (hb : L.customBody = false) (hwf : L.wf = true)
    {v : PVal} (hr : RepBody CRep L v) (he : encBody env L v = .ok bs) : decBody env L bs = .ok v := by
  obtain ⟨hf, -, ht⟩ := hr
  obtain ⟨b1, b2, h1, h2, rfl⟩ := encBody_ok hb he
  simp only [Layout.wf, Bool.and_eq_true, List.all_eq_true] at hwf
  obtain ⟨hsym, htail⟩ := hwf
  rw [decBody_eq env hb, decFields_encFields LW hsym b2 hf h1, Out.ok_bind]
  obtain ⟨vals, tv⟩ := v
  -- what is left is the tail, for any tail `t` and tail value `tv` the domain relates
  suffices h : decTail env L.tail (countOf L.fields vals) b2 = .ok tv by rw [h]; rfl
  have hc : hasCount L.fields = true → (countOf L.fields vals).getD 0 = tailCount tv :=
    fun h => by rw [countOf_rep h hf]; rfl
  generalize L.tail = t at ht htail h2
  -- the four pairs the domain relates: no tail, a counted vector, a set of words, a text to the end of the frame
  cases t <;> cases tv <;> try exact ht.elim
  · rfl
  · simp only [Bool.and_eq_true, List.all_eq_true] at htail
    simp only [encTail] at h2
    split at h2 <;> cases h2
    simp only [decTail_vec, hc htail.1.2, tailCount, decElems_encElems LW htail.1.1.1 _ ht ‹_›, Out.ok_bind]
  · cases h2
    have d := decU32s_flatMap _ [] ht.1
    rw [List.append_nil] at d
    simp only [decTail_set, hc htail, tailCount, d, Out.ok_bind, ht.2]
  · cases h2
    simp only [decTail, stripNul_writeStr _ _ ht.2, List.take_of_length_le ht.1]

/-- in-domain IS_MSO values: bytes, a known user type, NUL-free name and message that fit the 128-byte text -/
def RepMso (v : PVal) : Prop :=
  ∃ reqi ucid plid ut name msg,
    v = { vals := [.n reqi, .n ucid, .n plid, .n ut, .b name, .b msg], tail := .none } ∧
    reqi < 256 ∧ ucid < 256 ∧ plid < 256 ∧ memN ut msoUserTypes = true ∧
    (0 : Nat) ∉ name ∧ (0 : Nat) ∉ msg ∧ name.length + msg.length ≤ 128

/-- **the hand-written IS_MSO body round-trips** -/
theorem decMso_encMso (v : PVal) (hr : RepMso v) (bs : Bytes) (he : encMso v = .ok bs) : decMso bs = .ok v := by
  obtain ⟨reqi, ucid, plid, ut, name, msg, rfl, h1, h2, h3, h4, h5, h6, h7⟩ := hr
  cases he
  have hut : ut < 256 := by
    have := (memN_iff ut msoUserTypes).mp h4
    simp only [msoUserTypes, List.mem_cons, List.not_mem_nil, or_false] at this
    omega
  obtain ⟨k, hk⟩ := writeStr_fits 128 4 (name ++ msg) (by rw [List.length_append]; exact h7)
  have hnl : name.length % 256 = name.length := Nat.mod_eq_of_lt (by omega)
  simp only [List.cons_append, decMso, Nat.mod_eq_of_lt h1, Nat.mod_eq_of_lt h2, Nat.mod_eq_of_lt h3,
    Nat.mod_eq_of_lt hut, h4, hnl, hk]
  by_cases hn : name.length > 0
  · simp [hn, stripNul_eq_self h5, stripNul_padded msg h6 k]
  · obtain rfl : name = [] := List.length_eq_zero_iff.mp (by omega)
    simp [stripNul_padded msg h6 k]

/-- every body shape, the hand-written one included -/
def RepAnyBody (CRep : CustomId → List Val → Prop) (L : Layout) (v : PVal) : Prop :=
  (L.customBody = false ∧ RepBody CRep L v) ∨ (L.customBody = true ∧ RepMso v)

theorem decBody_encBody_any (LW : CustomLawful env CRep) {L : Layout} (hwf : L.wf = true) {v : PVal}
    (hr : RepAnyBody CRep L v) (he : encBody env L v = .ok bs) : decBody env L bs = .ok v := by
  rcases hr with ⟨hb, hr⟩ | ⟨hb, hr⟩
  · exact decBody_encBody LW hb hwf hr he
  · simp only [encBody, hb] at he
    simp only [decBody, hb]
    exact decMso_encMso v hr bs he

/-- **packets round-trip** (`Packet::write` then `Packet::read`), in any list of layouts in which the type byte finds
the layout it was written from -/
theorem parsePacket_writePacket (LW : CustomLawful env CRep) {all : List Layout} {L : Layout}
    (hfind : all.find? (fun M => M.typeNo == L.typeNo) = some L) (hwf : L.wf = true) {v : PVal}
    (hr : RepAnyBody CRep L v) (he : writePacket env L v = .ok bs) : parsePacket env all bs = .ok (L, v) := by
  obtain ⟨body, hbody, rfl⟩ := writePacket_ok_iff.mp he
  rw [parsePacket_cons hfind, decBody_encBody_any LW hwf hr hbody]
  rfl

end Insim.Layout
