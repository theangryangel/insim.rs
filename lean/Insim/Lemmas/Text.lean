import Insim.Props.C10
import Insim.Lemmas.Layout
import Insim.Model.MsoText
/-
Typed text fields: the codepage layer (Model/Codepage, laws and round trip in Props/C10) composed with the
field layer (writeStr / stripNul) and, for IS_MSO, with the hand-written body's name/text split
(Model/MsoText), under a sixth law on the codecs (`NulLaw`) and for texts in the domain `TextOk`. The statements are re-exported
as property theorems in Props/C01; `Text.one` is a codec family that satisfies all six laws.
-/
namespace Insim.Text
open Insim Insim.Cp Insim.Layout Insim.Props.C10

theorem toBytes_prefix (cp : Mk → CP) (order : List Mk) (a b : Str) :
    toBytes cp order (a ++ b) = toBytes cp order a ++ encGo cp order (encEnd cp order .L a) b := by
  rw [toBytes_eq_encGo, toBytes_eq_encGo, encGo_append]

/-- a sixth law, needed for texts inside NUL-terminated fields: no encoded byte is NUL -/
def NulLaw (cp : Mk → CP) : Prop := ∀ x c bs, (cp x).enc c = some bs → (0 : Nat) ∉ bs

theorem encGo_no_nul (cp : Mk → CP) (order : List Mk) (N : NulLaw cp) (s : Str) (hs : (0 : Nat) ∉ s) (cur : Mk) :
    (0 : Nat) ∉ encGo cp order cur s := by
  induction s generalizing cur with
  | nil => simp [encGo]
  | cons c cs ih =>
    simp only [List.mem_cons, not_or] at hs
    obtain ⟨x, bs, hst, hgo⟩ := encGo_cons cp order cur c
    have : (0 : Nat) ∉ bs := by
      cases hst with
      | ascii _ => simpa using hs.1
      | same _ he => exact N cur c bs he
      | switch he =>
        have : x.byte ≠ 0 := by cases x <;> decide
        simpa [this.symm] using N x c _ he
      | lost _ _ => decide
    simp [hgo, this, ih hs.2]

theorem toBytes_no_nul (cp : Mk → CP) (order : List Mk) (N : NulLaw cp) (s : Str) (hs : (0 : Nat) ∉ s) :
    (0 : Nat) ∉ toBytes cp order s := by
  rw [toBytes_eq_encGo]; exact encGo_no_nul cp order N s hs .L

/-- what the text's preconditions are: encodable characters, carets that start no marker, no NUL -/
structure TextOk (cp : Mk → CP) (s : Str) : Prop where
  enc : ∀ c ∈ s, isAscii c = true ∨ Encodable cp c
  caret : CaretOk s
  nul : (0 : Nat) ∉ s

theorem field_roundtrip (cp : Mk → CP) (order : List Mk) (ho : ∀ x : Mk, x ∈ order) (L : Laws cp) (LL : LeadLaw cp)
    (N : NulLaw cp) (n a : Nat) (s : Str) (hs : TextOk cp s) (hfit : (toBytes cp order s).length ≤ n) :
    Cp.toString cp (stripNul (writeStr n a (toBytes cp order s))) = s := by
  rw [stripNul_writeStr n a (toBytes_no_nul cp order N s hs.nul), List.take_of_length_le hfit]
  exact faithful_carets cp order ho L LL s hs.enc hs.caret

/-- **typed fixed-width field**: a text that fits its field comes back unchanged -/
theorem fixed_field_roundtrip (cp : Mk → CP) (order : List Mk) (ho : ∀ x : Mk, x ∈ order) (L : Laws cp) (LL : LeadLaw cp)
    (N : NulLaw cp) (n : Nat) (s : Str) (hs : TextOk cp s) (hfit : (toBytes cp order s).length ≤ n) :
    Cp.toString cp (stripNul (writeStr n 0 (toBytes cp order s))) = s :=
  field_roundtrip cp order ho L LL N n 0 s hs hfit

/-- **typed variable-width field** (4-aligned, capped at `n`) -/
theorem aligned_field_roundtrip (cp : Mk → CP) (order : List Mk) (ho : ∀ x : Mk, x ∈ order) (L : Laws cp) (LL : LeadLaw cp)
    (N : NulLaw cp) (n : Nat) (s : Str) (hs : TextOk cp s) (hfit : (toBytes cp order s).length ≤ n) :
    Cp.toString cp (stripNul (writeStr n 4 (toBytes cp order s))) = s :=
  field_roundtrip cp order ho L LL N n 4 s hs hfit

/-! ### IS_MSO at the level of its typed fields -/

theorem utf8Len_pos (c : Nat) : 0 < utf8Len c := by
  unfold utf8Len
  repeat' split
  all_goals decide

theorem splitUtf8_append (a b : Str) : splitUtf8 (a ++ b) (strLen a) = some (a, b) := by
  induction a with
  | nil => cases b <;> simp [splitUtf8, strLen]
  | cons c cs ih =>
    have hp := utf8Len_pos c
    obtain ⟨m, hm⟩ : ∃ m, utf8Len c + strLen cs = m + 1 := ⟨utf8Len c + strLen cs - 1, by omega⟩
    simp only [List.cons_append, strLen, hm, splitUtf8]
    have h1 : utf8Len c ≤ m + 1 := by omega
    have h2 : m + 1 - utf8Len c = strLen cs := by omega
    simp [h1, h2, ih]

/-- the writer, given the name's UTF-8 length as text start, announces the name's length in wire bytes -/
theorem msoWrite_append (cp : Mk → CP) (order : List Mk) (name text : Str) :
    msoWrite cp order (strLen name) (name ++ text) =
      some ((toBytes cp order name).length % 256, writeStr 128 4 (toBytes cp order (name ++ text))) := by
  unfold msoWrite
  split
  · rw [splitUtf8_append]
  · rename_i h
    cases name with
    | nil => simp [toBytes]
    | cons c cs => exact absurd (Nat.lt_of_lt_of_le (utf8Len_pos c) (Nat.le_add_right _ _)) h

/-- the reader on a body of two NUL-free parts and padding, split at the first part's length -/
theorem msoRead_append (cp : Mk → CP) (hnil : Cp.toString cp [] = []) {a b : Bytes} (ha : (0 : Nat) ∉ a) (hb : (0 : Nat) ∉ b) (k : Nat) :
    msoRead cp a.length (a ++ (b ++ List.replicate k 0)) = some (strLen (Cp.toString cp a) % 256, Cp.toString cp (a ++ b)) := by
  unfold msoRead
  split
  · simp [stripNul_eq_self ha, stripNul_padded b hb k]
  · have : a = [] := List.length_eq_zero_iff.mp (by omega)
    subst this
    simp [stripNul_padded b hb k, hnil, strLen]

/-- **IS_MSO, typed**: the user's name and text, and the position where the text starts, survive the
codec — the position is translated to the wire's byte offset and back -/
theorem mso_typed_roundtrip (cp : Mk → CP) (order : List Mk) (ho : ∀ x : Mk, x ∈ order) (L : Laws cp) (LL : LeadLaw cp)
    (N : NulLaw cp) (name text : Str) (hn : TextOk cp name) (hs : TextOk cp (name ++ text))
    (hts : strLen name < 256) (hfit : (toBytes cp order (name ++ text)).length ≤ 128)
    (ts : Nat) (body : Bytes) (hw : msoWrite cp order (strLen name) (name ++ text) = some (ts, body)) :
    msoRead cp ts body = some (strLen name, name ++ text) := by
  have hpre := toBytes_prefix cp order name text
  obtain ⟨k, hk⟩ := writeStr_fits 128 4 _ hfit
  have hnn := toBytes_no_nul cp order N _ hs.nul
  rw [msoWrite_append, Option.some.injEq, Prod.mk.injEq, hk] at hw
  obtain ⟨rfl, rfl⟩ := hw
  rw [hpre, List.length_append] at hfit
  rw [hpre, List.mem_append, not_or] at hnn
  -- split the bytes where the name's end, read both parts, put the bytes together again and decode them
  rw [Nat.mod_eq_of_lt (by omega), hpre, List.append_assoc,
    msoRead_append cp (by simp [Cp.toString, decGo, L.decNil]) hnn.1 hnn.2 k, ← hpre,
    faithful_carets cp order ho L LL _ hn.enc hn.caret, faithful_carets cp order ho L LL _ hs.enc hs.caret,
    Nat.mod_eq_of_lt hts]

/-- the plan the driver prints for the reader is what the reader does (given the codecs): the typed textstart is the UTF-8
length of the decoded name segments, the message the decoded segments of the whole text -/
theorem msoReadPlan_sound (cp : Mk → CP) (ts : Nat) (body : Bytes) :
    msoRead cp ts body =
      (msoReadPlan ts body).map (fun p => (strLen (p.1.flatMap (Seg.run cp)) % 256, p.2.flatMap (Seg.run cp))) := by
  unfold msoRead msoReadPlan
  split
  · split <;> simp [plan_sound, Cp.toString]
  · simp [plan_sound, Cp.toString, strLen]

/-! non-vacuity: a one-table family that satisfies all six laws, and a message in the theorem's domain -/
def one : Mk → CP := fun _ => { enc := fun c => if c = 233 then some [233] else none, dec := fun bs => bs }

theorem one_enc {x : Mk} {c : Nat} {bs : Bytes} (h : (one x).enc c = some bs) : c = 233 ∧ bs = [233] := by
  simp only [one] at h
  split at h
  · exact ⟨‹_›, (Option.some.inj h).symm⟩
  · cases h

theorem one_laws : Laws one where
  decNil := fun _ => rfl
  ascii := fun _ _ _ _ => rfl
  decEnc := by rintro x c bs r h; obtain ⟨rfl, rfl⟩ := one_enc h; rfl
  noCaret := by rintro x c bs h; obtain ⟨rfl, rfl⟩ := one_enc h; decide

theorem one_lead : LeadLaw one := by
  rintro x c b bs _ h; obtain ⟨rfl, h⟩ := one_enc h; cases h; decide

theorem one_nul : NulLaw one := by
  rintro x c bs h; obtain ⟨rfl, rfl⟩ := one_enc h; decide

example : msoWrite one Mk.all 4 [233, 58, 32, 104, 105] = some (3, [233, 58, 32, 104, 105, 0, 0, 0]) := by decide
example : msoRead one 3 [233, 58, 32, 104, 105, 0, 0, 0] = some (4, [233, 58, 32, 104, 105]) := by decide
example : TextOk one [233, 58, 32] ∧ TextOk one ([233, 58, 32] ++ [104, 105]) := by
  have ok : ∀ s : Str, (∀ c ∈ s, c ≠ 94 ∧ c ≠ 0 ∧ (isAscii c = true ∨ c = 233)) → TextOk one s := fun s h =>
    ⟨fun c hc => (h c hc).2.2.imp_right fun (e : c = 233) => ⟨.L, [233], by rw [e]; rfl⟩,
      caretOk_of_ne s fun c hc => (h c hc).1, fun h0 => (h 0 h0).2.1 rfl⟩
  exact ⟨ok _ (by decide), ok _ (by decide)⟩

end Insim.Text
