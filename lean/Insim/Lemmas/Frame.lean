import Insim.Model.Frame
/-
The frame codec of Model/Frame.lean: what `decodeLength` / `split` decide on a valid frame, on a prefix of one and on a
framing error, for good (more data behind the buffer does not change it); what `encodeLength` answers; `decode_encode` for
every parser. (`decodeLength_cons` and the inversions are in Model/Frame.lean, where the read loop's termination needs them.)
-/
namespace Insim.Frame

theorem decodeLength_complete (m : Mode) (f rest : Bytes) (h : ValidFrame m f) :
    decodeLength m (f ++ rest) = .len f.length := by
  obtain ⟨b, t, rfl, ha, h4, hmax⟩ := h
  rw [List.cons_append, decodeLength_cons, ha]
  simp only [List.length_cons, List.length_append] at h4 hmax ⊢
  -- the four tests of `decodeLength_cons`, in order
  rw [if_neg (by omega), if_neg (Nat.not_lt.mpr h4), if_neg (Nat.not_lt.mpr hmax), if_neg (by omega)]

theorem decodeLength_prefix (m : Mode) (f : Bytes) (k : Nat) (h : ValidFrame m f) (hk : k < f.length) :
    decodeLength m (f.take k) = .needMore := by
  obtain ⟨b, t, rfl, ha, h4, hmax⟩ := h
  cases k with
  | zero => rfl
  | succ k =>
    have hlt : (t.take k).length + 1 < (b :: t).length :=
      Nat.succ_lt_succ (Nat.lt_of_le_of_lt (List.length_take_le k t) (Nat.lt_of_succ_lt_succ hk))
    rw [List.take_succ_cons, decodeLength_cons, ha]
    rw [if_neg (Nat.not_lt.mpr h4), if_neg (Nat.not_lt.mpr hmax), if_pos hlt, ite_self]

theorem decodeLength_framing_iff {m : Mode} {buf : Bytes} :
    decodeLength m buf = .framing ↔
      4 ≤ buf.length ∧ ∃ b, buf.head? = some b ∧ (m.announced b < 4 ∨ m.maxLen < m.announced b) := by
  cases buf with
  | nil => exact ⟨nofun, fun h => nomatch h.1⟩
  | cons b t =>
    rw [decodeLength_cons]
    constructor
    · intro h
      obtain ⟨h4, h⟩ := else_of_ite_eq h nofun
      refine ⟨Nat.le_of_not_lt h4, b, rfl, ?_⟩
      by_cases hbad : m.announced b < 4 ∨ m.maxLen < m.announced b
      · exact hbad
      · rw [if_neg (fun h1 => hbad (.inl h1)), if_neg (fun h2 => hbad (.inr h2))] at h
        split at h <;> cases h
    · rintro ⟨h4, _, hb, hbad⟩
      cases hb
      rw [if_neg (show ¬ t.length + 1 < 4 from Nat.not_lt.mpr h4)]
      rcases hbad with h | h
      · rw [if_pos h]
      · rw [if_pos h, ite_self]

theorem encodeLength_ok {m : Mode} {len n : Nat} (h : encodeLength m len = .ok n) :
    4 ≤ len ∧ len ≤ m.maxLen ∧ m.announced n = len ∧ n < 256 ∧ (m.compressed = true → len % 4 = 0) := by
  revert h
  fun_cases encodeLength m len <;> intro h <;> cases h
  all_goals simp_all [minLen, Mode.maxLen, Mode.announced] <;> omega

/-- `encode_length` has no error return: it answers or aborts -/
theorem encodeLength_ne_err (m : Mode) (len : Nat) (e : ErrClass) : encodeLength m len ≠ .err e := by
  fun_cases encodeLength m len <;> nofun

theorem encode_ok {m : Mode} {x : Out Bytes} {f : Bytes} (h : encode m x = .ok f) :
    ∃ body n, x = .ok body ∧ encodeLength m (body.length + 1) = .ok n ∧ f = n :: body := by
  unfold encode at h
  split at h <;> try cases h
  split at h <;> cases h
  exact ⟨_, _, rfl, ‹_›, rfl⟩

theorem split_complete (m : Mode) (f rest : Bytes) (h : ValidFrame m f) :
    split m (f ++ rest) = .frame f rest := by
  simp only [split, decodeLength_complete m f rest h, List.take_left', List.drop_left']

theorem split_prefix (m : Mode) (f : Bytes) (k : Nat) (h : ValidFrame m f) (hk : k < f.length) :
    split m (f.take k) = .needMore := by
  simp only [split, decodeLength_prefix m f k h hk]

theorem split_frame_append (m : Mode) (buf f rest : Bytes) (h : split m buf = .frame f rest) :
    buf = f ++ rest := by
  obtain ⟨b, _, rfl, rfl, _⟩ := split_frame_spec m buf f rest h
  exact (List.take_append_drop _ _).symm

/-- `split` hands out valid frames only: with `split_complete`, `split m buf = .frame f rest ↔ ValidFrame m f ∧ buf = f ++ rest` -/
theorem split_frame_valid {m : Mode} {buf f rest : Bytes} (h : split m buf = .frame f rest) : ValidFrame m f := by
  obtain ⟨b, hb, rfl, -, h4, hm, hl⟩ := split_frame_spec m buf f rest h
  have hlen := List.length_take_of_le hl
  -- a non-empty prefix of the buffer starts with the buffer's first byte
  obtain ⟨t, ht⟩ := List.head?_eq_some_iff.mp (show (buf.take (m.announced b)).head? = some b by
    rw [List.head?_take, if_neg (by omega), hb])
  exact ⟨b, t, ht, hlen.symm, hlen.symm ▸ h4, hlen.symm ▸ hm⟩

theorem split_frame_more {m : Mode} {buf f rest : Bytes} (x : Bytes) (h : split m buf = .frame f rest) :
    split m (buf ++ x) = .frame f (rest ++ x) := by
  rw [split_frame_append m buf f rest h, List.append_assoc]
  exact split_complete m f _ (split_frame_valid h)

theorem split_framing_iff {m : Mode} {buf : Bytes} :
    split m buf = .framing ↔
      4 ≤ buf.length ∧ ∃ b, buf.head? = some b ∧ (m.announced b < 4 ∨ m.maxLen < m.announced b) := by
  rw [← decodeLength_framing_iff]
  unfold split
  split <;> simp [*]

theorem split_framing_more {m : Mode} {buf : Bytes} (x : Bytes) (h : split m buf = .framing) :
    split m (buf ++ x) = .framing := by
  obtain ⟨h4, b, hb, hbad⟩ := split_framing_iff.mp h
  exact split_framing_iff.mpr ⟨by rw [List.length_append]; omega, b, by rw [List.head?_append, hb]; rfl, hbad⟩

theorem encode_valid {m : Mode} {body f : Bytes} (h : encode m (.ok body) = .ok f) : ValidFrame m f ∧ f.tail = body := by
  obtain ⟨_, n, hb, hl, rfl⟩ := encode_ok h
  cases hb
  obtain ⟨h4, hmax, ha, -⟩ := encodeLength_ok hl
  exact ⟨⟨n, body, rfl, ha, h4, hmax⟩, rfl⟩

/-- **the framing round-trips, whatever the parser**: the frame built around a body is split off whole and the
parser is handed exactly that body -/
theorem decode_encode {P : Type} {m : Mode} (parse : Bytes → Out P) {body f : Bytes} {p : P}
    (h : encode m (.ok body) = .ok f) (hp : parse body = .ok p) : decode m parse f = (.ok (some p), []) := by
  obtain ⟨hv, ht⟩ := encode_valid h
  have hs := split_complete m f [] hv
  rw [List.append_nil] at hs
  simp only [decode, hs, ht, hp]

theorem decode_ne_panic {P : Type} {parse : Bytes → Out P} (hp : ∀ b, parse b ≠ .panic) (m : Mode) (buf : Bytes) :
    (decode m parse buf).1 ≠ .panic := by
  unfold decode
  split
  · nofun
  · nofun
  · split
    · nofun
    · nofun
    · exact absurd ‹_› (hp _)

end Insim.Frame
