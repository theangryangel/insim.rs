import Insim.Gen.Track
import Insim.Lemmas.Table
/-
The clauses of C14 about one configuration, as functions of what the tables hold for it (`none` = no entry): each statement
of `Props/C14` about `lookupN t …` is one of them as it stands, and `Props.C14.coherent` checks them all in one pass over the
tables; with them `areaTable`, which the licence clause consults, and the reader / writer on any tables (`decode_ok_iff`,
`encode_of_decode`). (They are here and not in `Props/C14` because Lean names the auxiliary `match` functions of a file after the first
declaration that needs one of that shape: defined there, they would change what the statements below them elaborate to.)
-/
namespace Insim.Track
open Insim Insim.Gen.Track

def wireOk : Option Bytes → Option Bytes → Bool
  | some w, some c => beqB w (pad6 c) && Nat.ble c.length 6 && !memN 0 c
  | _, _ => false

def readOk (t : Nat) : Option Bytes → Bool
  | some w => optBeqN (lookupB w readRows) t && Nat.beq w.length 6
  | none => false

/-- reversed exactly when the code ends in R or Y; open exactly when it ends in X or Y -/
def flagsOk (t : Nat) : Option Bytes → Bool
  | some c => (memN t reverseList == lastIs c 82 89) && (memN t openList == lastIs c 88 89)
  | none => false

def openOk (t : Nat) (d : Option Bool) : Bool :=
  !memN t openList || (match d with | some d => !d | none => false)

/-- area ↦ licence of the first configuration of that area in the code table. Nothing is proved about this table: `licenceOk`
compares every configuration with it, and two configurations that agree with the same table agree with each other. -/
def areaTable : List (Bytes × Nat) :=
  (codeRows.eraseDupsBy fun r s => beqB (area r.2) (area s.2)).filterMap fun r =>
    (lookupN r.1 licenceRows).map fun l => (area r.2, l)

def licenceOk : Option Bytes → Option Nat → Bool
  | some c, some l => optBeqN (lookupB (area c) areaTable) l
  | _, _ => false

theorem licenceOk_some {c : Bytes} {l : Option Nat} (h : licenceOk (some c) l = true) : l = lookupB (area c) areaTable := by
  cases l with
  | none => cases h
  | some l => exact ((optBeqN_iff _ l).mp h).symm

theorem decode_ok_iff {rows : List (Bytes × Nat)} {b : Bytes} {t : Nat} :
    decode rows b = .ok t ↔ b.length = 6 ∧ lookupB b rows = some t := by
  unfold decode
  split
  · split <;> simp_all
  · simp_all

theorem encode_of_decode {rrows : List (Bytes × Nat)} {wrows : List (Nat × Bytes)}
    (hm : ∀ r ∈ rrows, lookupN r.2 wrows = some r.1) {b : Bytes} {t : Nat} (h : decode rrows b = .ok t) :
    encode wrows t = .ok b := by
  simp [encode, hm _ (lookupB_some_mem (decode_ok_iff.mp h).2)]

end Insim.Track
