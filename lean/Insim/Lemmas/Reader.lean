import Insim.Model.Reader
/-
`read_exact` over a source that hands its data over in pieces: the result does not depend on the cuts.
-/
namespace Insim.Reader
open Insim

theorem read_spec (n : Nat) (hn : 0 < n) (ps : List Bytes) :
    (read n ps).1 ++ (read n ps).2.flatten = ps.flatten ∧ (read n ps).1.length ≤ n ∧
      ((read n ps).1 = [] → ps.flatten = []) := by
  -- no piece left (1), an empty piece is skipped (2), a piece that fits is handed over whole (3), a longer one is cut (4)
  fun_induction read n ps with
  | case1 => simp
  | case2 p ps he ih => simpa [List.isEmpty_iff.mp he] using ih
  | case3 p ps he hl => simp_all
  | case4 p ps he hl =>
    refine ⟨by simp [← List.append_assoc], by simp; omega, fun h => ?_⟩
    simp [Nat.ne_of_gt hn] at h
    simp [h] at he

/-- **`read_exact` does not see the cuts**: it succeeds exactly when `n` bytes are left, returns the first `n` bytes of
the data and leaves the rest -/
theorem readExact_spec (n : Nat) (ps : List Bytes) (acc : Bytes) :
    (readExact n ps acc).map (fun r => (r.1, r.2.flatten)) =
      if n ≤ ps.flatten.length then some (acc ++ ps.flatten.take n, ps.flatten.drop n) else none := by
  -- nothing more to read (1), the source is exhausted (2), a chunk is taken and the loop goes on for the rest (3)
  fun_induction readExact n ps acc with
  | case1 ps acc => simp
  | case2 n ps acc chunk ps' hr he =>
    obtain ⟨-, -, h0⟩ := read_spec (n + 1) (by omega) ps
    rw [hr] at h0
    simp [h0 (List.isEmpty_iff.mp he)]
  | case3 n ps acc chunk ps' hr he ih =>
    obtain ⟨hc, hle, -⟩ := read_spec (n + 1) (by omega) ps
    rw [hr] at hc hle
    simp only at hc hle
    rw [ih, ← hc, List.take_append, List.drop_append, List.take_of_length_le hle, List.drop_of_length_le hle,
      List.length_append, List.append_assoc, List.nil_append]
    have : n + 1 - chunk.length ≤ ps'.flatten.length ↔ n + 1 ≤ chunk.length + ps'.flatten.length := by omega
    simp only [this]

theorem readExact_some : ∀ (n : Nat) (ps : List Bytes) (acc out : Bytes) (rest : List Bytes),
    readExact n ps acc = some (out, rest) → out = acc ++ ps.flatten.take n ∧ rest.flatten = ps.flatten.drop n := by
  intro n ps acc out rest h
  have hs := readExact_spec n ps acc
  rw [h] at hs
  split at hs
  · simpa using hs
  · cases hs

theorem readExact_none_iff : ∀ (n : Nat) (ps : List Bytes) (acc : Bytes),
    readExact n ps acc = none ↔ ps.flatten.length < n := by
  intro n ps acc
  rw [← Option.map_eq_none_iff, readExact_spec]
  split
  · exact ⟨nofun, fun h => by omega⟩
  · exact ⟨fun _ => by omega, fun _ => rfl⟩

/-- one call of `read` is *not* `read_exact`: a source may hand over fewer bytes than asked (the reason a field decoder
must loop) -/
theorem read_may_be_short : (read 6 [[66, 76, 49], [82, 0, 0]]).1 = [66, 76, 49] := by decide

/-- **a field decoded through `read_exact` does not see the cuts**: the value is the decoder's answer on the first `n` bytes of
the data, and the source is left right behind them — or the data is too short and the call fails -/
theorem decodeFrom_spec {α} (n : Nat) (dec : Bytes → Out α) (pieces : List Bytes) :
    (pieces.flatten.length < n ∧ decodeFrom n dec pieces = (.err .decode, none)) ∨
    (n ≤ pieces.flatten.length ∧ ∃ rest, decodeFrom n dec pieces = (dec (pieces.flatten.take n), some rest) ∧
       rest.flatten = pieces.flatten.drop n) := by
  have hs := readExact_spec n pieces []
  unfold decodeFrom
  split at hs
  · obtain ⟨⟨out, rest⟩, h, he⟩ := Option.map_eq_some_iff.mp hs
    obtain ⟨rfl, he⟩ := Prod.mk.inj he
    exact .inr ⟨‹_›, rest, by rw [h]; rfl, he⟩
  · rw [Option.map_eq_none_iff.mp hs]
    exact .inl ⟨by omega, rfl⟩

theorem chunks_flatten (per : Nat) (b : Bytes) : (chunks per b).flatten = b := by
  fun_induction chunks per b with
  | case1 h => rfl
  | case2 b h hb => simp
  | case3 b h ih => rw [List.flatten_cons, ih, List.take_append_drop]

end Insim.Reader
