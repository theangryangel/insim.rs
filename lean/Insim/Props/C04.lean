import Insim.Lemmas.GenEnv
import Insim.Lemmas.Frame
/-
C04 — decoding untrusted bytes is total, bounded and always progresses.
-/
namespace Insim.Props.C04
open Insim Insim.Layout Insim.Frame

/-- **bounded, progressing**: the three outcomes — (1) need more data, buffer untouched; (2) a packet
or a decode error after removing exactly the announced frame (at least 4 bytes, never more than the
buffer holds, never more than announced); (3) a framing error for an impossible announced length,
buffer untouched -/
theorem cases {P} (m : Mode) (parse : Bytes → Out P) (hp : ∀ b, parse b ≠ .panic) (buf : Bytes) :
    let r := Frame.decode m parse buf
    (r.1 = .ok none ∧ r.2 = buf) ∨
    (∃ b, buf.head? = some b ∧ 4 ≤ m.announced b ∧ m.announced b ≤ m.maxLen ∧ m.announced b ≤ buf.length ∧
        r.2 = buf.drop (m.announced b) ∧ ((∃ p, r.1 = .ok (some p)) ∨ r.1 = .err .decode)) ∨
    (r.1 = .err .framing ∧ r.2 = buf ∧ ∃ b, buf.head? = some b ∧ (m.announced b < 4 ∨ m.maxLen < m.announced b)) := by
  simp only [Frame.decode]
  cases hs : split m buf with
  | needMore => left; exact ⟨rfl, rfl⟩
  | framing =>
    right; right
    exact ⟨rfl, rfl, (split_framing_iff.mp hs).2⟩
  | frame f rest =>
    obtain ⟨b, hb, hf, hr, h4, hm, hl⟩ := split_frame_spec m buf f rest hs
    refine .inr (.inl ⟨b, hb, h4, hm, hl, ?_⟩)
    dsimp only
    cases hpz : parse f.tail with
    | ok p => exact ⟨hr, .inl ⟨p, rfl⟩⟩
    | err e => exact ⟨hr, .inr rfl⟩
    | panic => exact absurd hpz (hp _)

/-- **total**: for every byte buffer, in both size modes, the decoder returns without panicking -/
theorem total (m : Mode) (buf : Bytes) :
    (Frame.decode m (parsePacket genEnv Gen.Packets.all) buf).1 ≠ .panic :=
  decode_ne_panic (parsePacket_ne_panic genEnv Gen.Packets.all) m buf

/-- **frame-local**: the parser never sees a byte beyond the announced frame — whatever follows a
complete frame in the buffer has no influence on the result, and is left in the buffer untouched -/
theorem frame_local {P} (m : Mode) (parse : Bytes → Out P) (f g g' : Bytes) (hf : ValidFrame m f) :
    (Frame.decode m parse (f ++ g)).1 = (Frame.decode m parse (f ++ g')).1 ∧
    (Frame.decode m parse (f ++ g)).2 = g := by
  simp only [Frame.decode, split_complete m f g hf, split_complete m f g' hf]
  cases parse f.tail <;> simp

/-- a malformed packet cannot corrupt its successors: after a decode error the buffer holds exactly
the following frames -/
theorem error_keeps_successors {P} (m : Mode) (parse : Bytes → Out P) (f g : Bytes) (hf : ValidFrame m f)
    (e : ErrClass) (hbad : parse f.tail = .err e) :
    Frame.decode m parse (f ++ g) = (.err .decode, g) := by
  simp only [Frame.decode, split_complete m f g hf, hbad]

/-! non-vacuity -/
example : (Frame.decode ⟨true⟩ (parsePacket genEnv Gen.Packets.all) [0, 3, 0, 0]).1 = .err .framing := by decide +kernel
example : (Frame.decode ⟨true⟩ (parsePacket genEnv Gen.Packets.all) [2, 64, 0, 0, 0, 9, 0, 0]) = (.err .decode, []) := by decide +kernel
example : (Frame.decode ⟨false⟩ (parsePacket genEnv Gen.Packets.all) [4, 3, 1]) = (.ok none, [4, 3, 1]) := by decide +kernel

end Insim.Props.C04
