import Insim.Model.Conn
/-
C06 — writes reach the transport complete, contiguous and in order.
`writeAll` is the model of `write_all` (blocking, after the `fix:` commit) and `write_all_buf` (tokio):
keep handing the remaining bytes to the transport until none are left.
-/
namespace Insim.Props.C06
open Insim Insim.Conn

/-- a transport that never fails and never accepts zero bytes -/
def Healthy (ws : List WEv) : Prop := ∀ e ∈ ws, e ≠ .ioErr ∧ e ≠ .accept 0

/-- number of `accept` events in a script -/
def accepts : List WEv → Nat
  | [] => 0
  | .accept _ :: ws => accepts ws + 1
  | _ :: ws => accepts ws

/-- whatever the acceptance pattern, `write_all` leaves a prefix of the frame on the wire — never bytes out of order or
duplicated — and all of it when it reports success -/
theorem write_all_spec (f : Bytes) (ws : List WEv) :
    (writeAll f ws).1 <+: f ∧ ((writeAll f ws).2.1 = true → (writeAll f ws).1 = f) := by
  -- the cases of `writeAll`: nothing left to write (1), script exhausted (2), `pending` (3), `ioErr` (4), `accept 0` (5),
  -- `accept k` with `k > 0` (6)
  fun_induction writeAll f ws with
  | case1 ws => exact ⟨List.prefix_refl _, fun _ => rfl⟩
  | case2 | case4 | case5 => exact ⟨List.nil_prefix, nofun⟩
  | case3 b bs ws ih => exact ih
  | case6 b bs k ws hk r ih =>
    have hf : (b :: bs).take k ++ (b :: bs).drop k = b :: bs := List.take_append_drop k _
    have hp := (List.prefix_append_right_inj ((b :: bs).take k)).mpr ih.1
    rw [hf] at hp
    exact ⟨hp, fun h => (congrArg _ (ih.2 h)).trans hf⟩

/-- on a healthy transport with at least one accept event per byte still to go, every write
completes — however few bytes each call takes (k ≥ 1) and however often the transport reports
not-ready -/
theorem write_all_completes (f : Bytes) (ws : List WEv) (hh : Healthy ws) (hn : f.length ≤ accepts ws) :
    (writeAll f ws).2.1 = true ∧ Healthy (writeAll f ws).2.2 ∧
      accepts ws ≤ accepts (writeAll f ws).2.2 + f.length := by
  fun_induction writeAll f ws with
  | case1 ws => exact ⟨rfl, hh, by simp⟩
  | case2 b bs => simp [accepts] at hn
  | case3 b bs ws ih =>
    exact ih (fun e he => hh e (List.mem_cons_of_mem _ he)) (by simpa [accepts] using hn)
  | case4 b bs ws => exact absurd rfl (hh .ioErr (by simp)).1
  | case5 b bs ws => exact absurd rfl (hh (.accept 0) (by simp)).2
  | case6 b bs k ws hk r ih =>
    simp only [accepts, List.length_cons] at hn
    obtain ⟨i1, i2, i3⟩ : r.2.1 = true ∧ Healthy r.2.2 ∧ accepts ws ≤ accepts r.2.2 + ((b :: bs).drop k).length :=
      ih (fun e he => hh e (List.mem_cons_of_mem _ he)) (by rw [List.length_drop, List.length_cons]; omega)
    rw [List.length_drop, List.length_cons] at i3
    exact ⟨i1, i2, by simp only [accepts, List.length_cons]; omega⟩

theorem write_many_spec (fs : List Bytes) (ws : List WEv) :
    (writeMany fs ws).1 <+: fs.flatten ∧ ((writeMany fs ws).2 = true → (writeMany fs ws).1 = fs.flatten) := by
  induction fs generalizing ws with
  | nil => exact ⟨List.prefix_refl _, fun _ => rfl⟩
  | cons f fs ih =>
    obtain ⟨hp, hok⟩ := write_all_spec f ws
    simp only [writeMany]
    split <;> (rename_i o ws' hw; rw [hw] at hp hok)
    · cases hok rfl
      exact ⟨(List.prefix_append_right_inj _).mpr (ih ws').1, fun h => congrArg _ ((ih ws').2 h)⟩
    · exact ⟨hp.trans (List.prefix_append _ _), nofun⟩

/-- **write_all**: a sequence of writes that all succeed delivers exactly the concatenation of the
frames, contiguous and in call order -/
theorem write_many_ok (fs : List Bytes) (ws : List WEv) (out : Bytes) (h : writeMany fs ws = (out, true)) :
    out = fs.flatten := by
  have := (write_many_spec fs ws).2
  rw [h] at this
  exact this rfl

/-- … and whatever happens the wire holds a prefix of that concatenation -/
theorem write_many_prefix (fs : List Bytes) (ws : List WEv) : (writeMany fs ws).1 <+: fs.flatten :=
  (write_many_spec fs ws).1

/-- on a healthy transport with enough accept events the whole sequence is delivered -/
theorem write_many_completes (fs : List Bytes) (ws : List WEv) (hh : Healthy ws)
    (hn : fs.flatten.length ≤ accepts ws) : writeMany fs ws = (fs.flatten, true) := by
  suffices h : (writeMany fs ws).2 = true from Prod.ext ((write_many_spec fs ws).2 h) h
  induction fs generalizing ws with
  | nil => rfl
  | cons f fs ih =>
    obtain ⟨c1, c2, c3⟩ := write_all_completes f ws hh (by simp at hn; omega)
    simp only [writeMany]
    split <;> (rename_i o ws' hw; rw [hw] at c1 c2 c3)
    · exact ih ws' c2 (by simp at hn c3 ⊢; omega)
    · cases c1

/-! non-vacuity: accepts of various sizes, with not-ready reports in between -/
def demoWs : List WEv := [.accept 5, .pending, .pending, .accept 5, .accept 1, .pending, .accept 1, .accept 100,
  .accept 1, .accept 1, .accept 1, .accept 1, .accept 1, .accept 1, .accept 1]
example : writeMany [[1, 2, 3, 4, 5, 6, 7, 8], [9, 10, 11, 12]] demoWs = ([1, 2, 3, 4, 5, 6, 7, 8, 9, 10, 11, 12], true) := by
  apply write_many_completes
  · intro e he; revert e; decide
  · decide

end Insim.Props.C06
