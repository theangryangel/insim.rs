import Insim.Lemmas.Spec
import Insim.Lemmas.GenEnv
import Insim.Lemmas.Frame
import Insim.Gen.Spec
import Insim.Gen.Packets
import Insim.Gen.PacketNames
/-
C02 — the wire layout conforms to the InSim v9 / relay specification.

Two independent tables meet here. `Gen.Spec.all` is generated from DESIGN-appendix-spec.md (a
transcription of the published specification written down at design time; nothing under /repo is read
to produce it). `Gen.Packets.all` / `Gen.PacketNames.rows` are regenerated from the packet structs,
enums and bitflags of the source on every run. `conforms` normalises both into a byte map of the frame
— for every offset: spare / start of a field (normalised name, class, unit, width) / continuation /
opaque (hand-written codec) — and compares them on the reader's and on the writer's side, together
with the tail (element layout, odd-count padding, text alignment and maximum) and every enumerant
and flag constant (name and value) the specification lists.

`conforms_all` is the finite comparison (kernel evaluation over all 73 kinds). The generic theorems
then carry it to *every field assignment*: whatever the values, the writer puts each field's encoding
at the field's offset (`field_written_at`), writes zero at every spare byte (`spare_written_zero`),
and the reader takes each field from the same offset (`field_read_at`); the second byte of every frame
is the type number (`header`) and the third the request id (`reqi_first`).

Not covered by these theorems (decided by the correspondence run and the oracle on the real code):
the inner layout of the hand-written codecs (marked opaque in the byte map: IS_SMALL's value — its named
values are compared in `small_values_conform` —, CIM modes, the version text of IS_VER) and IS_MSO's
hand-written body. CarContact's inner layout is compared in `coninfo_cells_conform`.
-/
namespace Insim.Props.C02
open Insim Insim.Layout Insim.Spec Insim.Props.C03 Insim.Frame

/-! ### the finite comparison -/

/-- **every regenerated layout conforms to its specification entry** (both sides, tails, enumerant and flag rows) -/
theorem conforms_all : Gen.Packets.all.all (conforms Gen.PacketNames.rows Gen.Spec.all) = true := by decide +kernel

theorem conforms_of_mem (L : Layout) (hL : L ∈ Gen.Packets.all) :
    conforms Gen.PacketNames.rows Gen.Spec.all L = true :=
  List.all_eq_true.mp conforms_all L hL

/-- the two tables list the same type numbers: a layout that conforms has an entry to conform to; the converse is evaluated -/
theorem kinds_covered :
    Gen.Packets.all.all (fun L => (specFor Gen.Spec.all L.typeNo).isSome) = true ∧
    Gen.Spec.all.all (fun S => Gen.Packets.all.any (fun L => L.typeNo == S.typeNo)) = true :=
  ⟨List.all_eq_true.mpr fun L hL => specFor_isSome_of_conforms (conforms_of_mem L hL), by decide +kernel⟩

/-- IS_SMALL is a hand-written codec (opaque in the byte map): every named value the specification lists for a
sub-type (light switches, siren, horn, cars, vote actions) is a named value of the crate's type for that sub-type -/
def smallRowsOk : Bool :=
  Gen.Spec.smallRows.all (fun e =>
    match lookupRows Gen.PacketNames.rows 4 ([115, 117, 98, 116, 46] ++ e.1) with
    | some code => rowsIn e.2 code
    | none => false)

theorem small_values_conform : smallRowsOk = true := by decide +kernel

/-- every body starts with the one-byte request id -/
def startsWithReqi (L : Layout) : Bool :=
  L.customBody ||
  (match L.fields with
   | f :: _ => f.rb == 0 && f.wb == 0 && beqB (normName f.path) [114, 101, 113, 105] && wireSize f.ty == 1
   | [] => false)

theorem reqi_first : Gen.Packets.all.all startsWithReqi = true := by decide +kernel

/-- fixed-width texts only (so that every field has a constant width) -/
theorem fixed_widths : Gen.Packets.all.all (fun L => L.fields.all (fun f => fixedStr f.ty)) = true := by decide +kernel

theorem fixed_of_mem (L : Layout) (hL : L ∈ Gen.Packets.all) : ∀ f ∈ L.fields, fixedStr f.ty = true :=
  fun f hf => List.all_eq_true.mp (List.all_eq_true.mp fixed_widths L hL) f hf

/-! ### from the table to every field assignment -/

/-- **spare bytes**: for every kind and every value, the fixed part the writer produces carries a zero at
every offset its byte map marks as spare (`conforms_all` compares that byte map with the specification's) -/
theorem spare_written_zero (L : Layout) (hL : L ∈ Gen.Packets.all) (cnt : Nat) (vs : List Val) (bs : Bytes)
    (h : encFields genEnv cnt L.fields vs = .ok bs) (i : Nat) (hs : (codeMarks .wr [] L.fields)[i]? = some .spare) :
    bs[i]? = some 0 :=
  spareZero_get (enc_spare_zero genEnv_sized [] (fixed_of_mem L hL) h) hs

/-- **field placement (writer)**: the bytes of field `f` — the encoding of `f`'s own values, whatever the other
fields hold — start at the offset of `f`'s start mark in the byte map -/
theorem field_written_at (L : Layout) (hL : L ∈ Gen.Packets.all) (pre : List Field) (f : Field) (post : List Field)
    (hf : L.fields = pre ++ f :: post) (cnt : Nat) (vs : List Val) (bs : Bytes)
    (h : encFields genEnv cnt L.fields vs = .ok bs) :
    ∃ b, encTy genEnv f.ty cnt ((vs.drop (arities pre)).take (arity f.ty)) = .ok b ∧ b.length = wTy f.ty ∧
      (bs.drop ((codeMarks .wr [] pre).length + f.wb)).take (wTy f.ty) = b := by
  have hfx := fixed_of_mem L hL
  rw [hf] at h hfx
  obtain ⟨a, c, rfl, ha, hc⟩ := encFields_append_ok genEnv_sized [] (fun g hg => hfx g (by simp [hg])) h
  obtain ⟨b, rest, hb, -, rfl⟩ := encFields_cons_ok hc
  have hl := encTy_length genEnv_sized (hfx f (by simp)) hb
  refine ⟨b, hb, hl, ?_⟩
  -- drop what was written for `pre`, then `f`'s leading pad; the next `wTy f.ty` bytes are `b`
  rw [← ha, ← hl, ← List.drop_drop, List.drop_left, List.append_assoc, List.append_assoc,
    List.drop_left' (List.length_replicate ..), List.take_left]

/-- **field placement (reader)**: when the fixed part decodes, `f`'s own decoder succeeds on the input from the offset of
`f`'s start mark on -/
theorem field_read_at (L : Layout) (pre : List Field) (f : Field) (post : List Field)
    (hf : L.fields = pre ++ f :: post) (x : Bytes) (vs : List Val) (r : Bytes)
    (h : decFields genEnv L.fields x = .ok (vs, r)) :
    ∃ v r1, decTy genEnv f.ty (x.drop ((codeMarks .rd [] pre).length + f.rb)) = .ok (v, r1) := by
  rw [hf] at h
  obtain ⟨ws, h⟩ := decFields_append_ok [] h
  obtain ⟨v, r1, -, h, -, -⟩ := decFields_cons_ok_iff.mp h
  exact ⟨v, r1, by rwa [List.drop_drop] at h⟩

/-- the start mark of `f` sits at that offset of the byte map (which `conforms_all` compares with the specification's) -/
theorem start_mark_at (s : Side) (L : Layout) (pre : List Field) (f : Field) (post : List Field)
    (hf : L.fields = pre ++ f :: post) (c u w : Nat) (hc : clsOf f.ty = some (c, u)) (hw : widthOn s f.ty = w + 1) :
    (codeMarks s [] L.fields)[(codeMarks s [] pre).length + padB s f]? = some (.start (normName f.path) c u (w + 1)) := by
  rw [hf]; simpa using codeMarks_start s [] pre f post c u w hc hw

/-- **bytes 0, 1, 2**: the size byte is first, the packet type number second; the body (whose first byte is
the request id, `reqi_first`) follows -/
theorem header (m : Mode) (L : Layout) (v : PVal) (f : Bytes)
    (h : Frame.encode m (writePacket genEnv L v) = .ok f) :
    ∃ n body, f = n :: L.typeNo :: body ∧ encBody genEnv L v = .ok body := by
  obtain ⟨b, n, hb, -, rfl⟩ := encode_ok h
  obtain ⟨body, hbody, rfl⟩ := writePacket_ok_iff.mp hb
  exact ⟨n, body, rfl, hbody⟩

/-! ### inside the hand-written CarContact codec -/

/-- byte layout of the hand-written CarContact codec (`customEnc .conInfo` / `customDec .conInfo`):
normalised name, offset inside the 16 bytes, width. Byte 2 is spare. -/
def conInfoCells : List (Bytes × Nat × Nat) :=
  [([112, 108, 105, 100], 0, 1), ([105, 110, 102, 111], 1, 1), ([115, 116, 101, 101, 114], 3, 1),
   ([116, 104, 114, 98, 114, 107], 4, 1), ([99, 108, 117, 104, 97, 110], 5, 1), ([103, 101, 97, 114, 115, 112], 6, 1),
   ([115, 112, 101, 101, 100], 7, 1), ([100, 105, 114, 101, 99, 116, 105, 111, 110], 8, 1),
   ([104, 101, 97, 100, 105, 110, 103], 9, 1), ([97, 99, 99, 101, 108, 102], 10, 1), ([97, 99, 99, 101, 108, 114], 11, 1),
   ([120], 12, 2), ([121], 14, 2)]

/-- the specification's cells of IS_CON under a prefix (`a.` / `b.`), relative to a base offset -/
def specSub (S : SKind) (pre : Bytes) (base : Nat) : List (Bytes × Nat × Nat) :=
  (S.cells.filter (fun c => beqB (c.code.take pre.length) pre)).map (fun c => (c.code.drop pre.length, c.off - base, c.width))

def eqCells : List (Bytes × Nat × Nat) → List (Bytes × Nat × Nat) → Bool
  | [], [] => true
  | a :: as, b :: bs => beqB a.1 b.1 && a.2.1 == b.2.1 && a.2.2 == b.2.2 && eqCells as bs
  | _, _ => false

/-- the hand-written CarContact layout is the specification's, for both cars of IS_CON -/
theorem coninfo_cells_conform :
    (match specFor Gen.Spec.all 50 with
     | some S => eqCells (specSub S [97, 46] 8) conInfoCells && eqCells (specSub S [98, 46] 24) conInfoCells
     | none => false) = true := by decide +kernel

/-- what the hand-written writer puts at those offsets, for every in-range value (nibbles ≤ 15) -/
theorem coninfo_written (plid info steer thr brk clu han gearsp speed direction heading accelf accelr x y : Nat) (bs : Bytes)
    (h : customEnc genEnv .conInfo [.n plid, .n info, .n steer, .n thr, .n brk, .n clu, .n han, .n gearsp, .n speed,
      .n direction, .n heading, .n accelf, .n accelr, .n x, .n y] = .ok bs) :
    bs = [plid % 256, info % 256, 0, steer % 256, thr * 16 + brk, clu * 16 + han, gearsp * 16, speed % 256,
          direction % 256, heading % 256, accelf % 256, accelr % 256] ++ leBytes 2 x ++ leBytes 2 y := by
  simp only [customEnc] at h
  split at h
  · cases h
  · injection h with h; exact h.symm

/-! ### non-vacuity -/

/-- IS_PLC: the connection id is written at frame offset 4 (body offset 2) and the three bytes after it are zero -/
example : (codeMarks .wr [] Gen.Packets.lPlc.fields).take 6 =
    [.start [114, 101, 113, 105] 0 0 1, .spare, .start [117, 99, 105, 100] 0 0 1, .spare, .spare, .spare] := by decide +kernel

end Insim.Props.C02
