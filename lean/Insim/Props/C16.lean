import Insim.Lemmas.GameVersion
/-
C16 — game versions parse totally, print re-parseably and order consistently.
`parse` is a closed, non-recursive composition of structurally recursive list functions: Lean accepts
it without fuel or `partial`, which is the termination proof ("never loops"); it has no `panic` value.
-/
namespace Insim.Props.C16
open Insim Insim.GV

/-- laws assumed of the three standard-library functions the model abstracts -/
structure Laws (env : Env) (Finite : Nat → Prop) : Prop where
  /-- ASCII digits are numeric -/
  numDigit : ∀ c, isAsciiDigit c = true → env.isNum c = true
  /-- ASCII letters are not -/
  numAlpha : ∀ c, isAsciiAlpha c = true → env.isNum c = false
  /-- a finite float prints as a string of ASCII digits and dots … -/
  printChars : ∀ x, Finite x → ∀ c ∈ env.printF x, isAsciiDigit c = true ∨ c = 46
  /-- … that parses back to the same float (shortest round-trip printing) -/
  parsePrint : ∀ x, Finite x → env.parseF (env.printF x) = some x

/-- a well-formed version value: an upper-case ASCII letter and a revision that fits `usize` -/
def WF (g : GV) : Prop := 65 ≤ g.minor ∧ g.minor ≤ 90 ∧ ∀ p, g.patch = some p → p < 2 ^ 64

/-- whatever `parse` accepts has an upper-case ASCII letter (the letter is case-normalised) -/
theorem parse_minor_upper (env : Env) (text : Str) (g : GV) (h : parse env text = .ok g) : 65 ≤ g.minor ∧ g.minor ≤ 90 := by
  unfold parse at h
  -- the empty text; no number; nothing after the number; then the letter, upper-cased, or a refusal
  split at h
  · cases h; simp
  split at h
  · cases h
  split at h
  · cases h; simp
  split at h
  · rw [(patchPhase_keeps env _ g _ h).2]
    exact toAsciiUpper_range _ ‹_›
  · cases h

/-- a letter is not part of the number -/
theorem alpha_not_major {env : Env} {Finite : Nat → Prop} (L : Laws env Finite) {c : Nat} (hc : isAsciiAlpha c = true) :
    isMajorChar env c = false := by
  simp only [isMajorChar, L.numAlpha c hc, Bool.false_or, beq_eq_false_iff_ne]
  simp only [isAsciiAlpha, Bool.or_eq_true, Bool.and_eq_true, decide_eq_true_eq] at hc; omega

/-- **case-insensitive in the letter**: lower and upper case letters parse to the same version -/
theorem case_insensitive (env : Env) (Finite : Nat → Prop) (L : Laws env Finite) (maj : Str) (c : Nat) (rest : Str)
    (hm : ∀ x ∈ maj, isMajorChar env x = true) (hc : isAsciiAlpha c = true) :
    parse env (maj ++ c :: rest) = parse env (maj ++ toAsciiUpper c :: rest) := by
  obtain ⟨h1, h2⟩ := toAsciiUpper_range c hc
  have hcu := upper_isAlpha h1 h2
  rw [parse_major_letter env maj c rest hm (alpha_not_major L hc) hc,
    parse_major_letter env maj _ rest hm (alpha_not_major L hcu) hcu, toAsciiUpper_upper h2]

/-- the printed form of a well-formed version with a finite number parses back to that version -/
theorem parse_print (env : Env) (Finite : Nat → Prop) (L : Laws env Finite) (g : GV) (hg : WF g) (hf : Finite g.major) :
    parse env (print env g) = .ok g := by
  obtain ⟨m1, m2, hp⟩ := hg
  have halpha := upper_isAlpha m1 m2
  have hpre : ∀ x ∈ env.printF g.major, isMajorChar env x = true := by
    intro x hx
    rcases L.printChars g.major hf x hx with h | h
    · simp [isMajorChar, L.numDigit x h]
    · simp [isMajorChar, h]
  have hparse (rest : Str) := parse_major_letter env (env.printF g.major) g.minor rest hpre (alpha_not_major L halpha) halpha
  simp only [L.parsePrint g.major hf, toAsciiUpper_upper m2] at hparse
  obtain ⟨major, minor, patch⟩ := g
  cases patch with
  | none => exact hparse []
  | some p =>
    simp only [print, List.append_assoc, List.singleton_append]
    rw [hparse, patchPhase_natDigits env L.numDigit _ p (hp p rfl)]

/-- **print_parse**: the printed form of a well-formed version with a finite number parses back to
an equal version -/
theorem print_parse (env : Env) (Finite : Nat → Prop) (L : Laws env Finite) (g : GV) (hg : WF g) (hf : Finite g.major) :
    ∃ g', parse env (print env g) = .ok g' ∧ eqv g' g = true :=
  ⟨g, parse_print env Finite L g hg hf, by simp [eqv]⟩

/-! ### order -/

/-- **order = number, then letter, then revision**, a missing revision counting as 0 -/
theorem cmp_is_lex :
    cmp = compareLex (compareOn (·.major)) (compareLex (compareOn (·.minor)) (compareOn (·.patch.getD 0))) := by
  funext a b
  simp only [cmp, compareLex, compareOn]
  cases compare a.major b.major <;> cases compare a.minor b.minor <;> rfl

/-- so `cmp` has the laws of a lexicographic product of `Nat`s -/
instance : Std.TransCmp cmp := cmp_is_lex ▸ inferInstance

theorem cmp_eq_iff (a b : GV) : cmp a b = .eq ↔ eqv a b = true := by
  simp [cmp_is_lex, compareOn, eqv, and_assoc]

theorem cmp_refl (a : GV) : cmp a a = .eq := Std.ReflCmp.compare_self

theorem cmp_antisymm (a b : GV) : cmp a b = .lt ↔ cmp b a = .gt := Std.OrientedCmp.gt_iff_lt.symm

theorem cmp_trans (a b c : GV) (h1 : cmp a b = .lt) (h2 : cmp b c = .lt) : cmp a c = .lt := Std.TransCmp.lt_trans h1 h2

/-- total: exactly one of <, =, > holds for any two versions -/
theorem cmp_total (a b : GV) : cmp a b = .lt ∨ cmp a b = .eq ∨ cmp a b = .gt := by
  cases cmp a b <;> simp

/-- equal versions compare alike against anything (consistency of the order with equality) -/
theorem cmp_congr (a a' b : GV) (h : eqv a a' = true) : cmp a b = cmp a' b :=
  Std.TransCmp.congr_left ((cmp_eq_iff a a').mpr h)

/-! non-vacuity: the functions evaluated in a concrete environment -/
def env0 : Env := { isNum := isAsciiDigit, parseF := parseF32, printF := fun _ => [48, 46, 55] }
example : parse env0 [48, 46, 55, 100, 49, 50] = .ok { major := 0x3f333333, minor := 68, patch := some 12 } := by rfl
example : parse env0 [48, 46, 55, 100, 120] = .error .patch := by rfl
example : parse env0 [48, 46, 55, 45] = .error .minor := by rfl
example : parse env0 [46] = .error .major := by rfl
example : WF { major := 0x3f333333, minor := 68, patch := some 12 } := ⟨by decide, by decide, by intro p h; injection h with h; subst h; decide⟩
example : cmp { major := 5, minor := 66, patch := none } { major := 5, minor := 66, patch := some 0 } = .eq := by decide

end Insim.Props.C16
