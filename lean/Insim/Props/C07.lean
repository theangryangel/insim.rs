import Insim.Props.C05
/-
C07 — keep-alive requests are answered exactly once, and only they are.
-/
namespace Insim.Props.C07
open Insim Insim.Frame Insim.Conn

/-- only TINY / NONE / request id 0 is a keep-alive — for every sub-type and every request id -/
theorem only (c : Cls) : isKeepAlive c = true ↔ c = .tiny 0 0 := by
  constructor
  · intro h
    unfold isKeepAlive at h
    split at h
    · rfl
    · cases h
  · rintro rfl; rfl

/-- the reply is the encoder's image of TINY_NONE with request id 0, in the connection's own mode -/
theorem pong_is_encoded_tiny_none (m : Mode) : Frame.encode m (.ok [3, 0, 0]) = .ok (pong m) := by
  cases m with | mk c => cases c <;> decide

def wroteOf : Item → Option Bytes
  | .wrote bs => some bs
  | _ => none

/-- does this frame decode to a keep-alive? -/
def isKAFrame (cfg : Cfg) (f : Bytes) : Bool :=
  match cfg.parse (f.tail) with
  | .ok c => isKeepAlive c
  | _ => false

/-- one frame: a keep-alive produces exactly `[reply, delivery]` — the reply first; anything else
produces no write at all -/
theorem frame_reply {cfg : Cfg} {f : Bytes} :
    (isKAFrame cfg f = true → frameItems cfg f = [.wrote (pong cfg.mode), .pkt f (.tiny 0 0)]) ∧
    (isKAFrame cfg f = false → (frameItems cfg f).filterMap wroteOf = []) := by
  unfold isKAFrame frameItems
  cases cfg.parse f.tail with
  | ok c =>
    constructor
    · intro h
      -- a keep-alive is a TINY, which the version gate never looks at
      cases (only c).mp h
      cases cfg.verify <;> rfl
    · intro h
      dsimp only at h ⊢
      rw [h]
      split <;> rfl
  | err | panic => exact ⟨nofun, fun _ => rfl⟩

theorem flatMap_writes (cfg : Cfg) (frames : List Bytes) :
    (frames.flatMap (frameItems cfg)).filterMap wroteOf =
      (frames.filter (isKAFrame cfg)).map (fun _ => pong cfg.mode) := by
  induction frames with
  | nil => rfl
  | cons f fs ih =>
    rw [List.flatMap_cons, List.filterMap_append, ih, List.filter_cons]
    split
    · rename_i h; rw [frame_reply.1 h]; rfl
    · rename_i h; rw [frame_reply.2 (by simpa using h)]; rfl

/-- transient faults are not writes -/
theorem filterMap_wroteOf_filter (l : List Item) :
    (l.filter (fun i => !i.isFault)).filterMap wroteOf = l.filterMap wroteOf := by
  rw [List.filterMap_filter]
  congr 1
  funext i
  cases i with
  | err e => cases e <;> rfl
  | _ => rfl

/-- **pongs**: over any history, any segmentation, any transient faults: the bytes written by the
connection are exactly one reply per received keep-alive, in order, and nothing else -/
theorem pongs (cfg : Cfg) (frames : List Bytes)
    (hv : ∀ f ∈ frames, ValidFrame cfg.mode f) (hp : ∀ f ∈ frames, cfg.parse (f.tail) ≠ .panic)
    (buf : Bytes) (evs : List Ev) (hinv : buf ++ dataOf evs = frames.flatten) (heof : EndsEof evs) :
    (run cfg buf evs).filterMap wroteOf = (frames.filter (isKAFrame cfg)).map (fun _ => pong cfg.mode) := by
  rw [← filterMap_wroteOf_filter, (C05.reassembly cfg frames hv hp buf evs hinv heof).1,
    List.filterMap_append, flatMap_writes]
  simp [wroteOf]

/-- **written before delivery**: in the trace, every keep-alive's delivery is immediately preceded by
its reply (the trace without transient faults is the concatenation of the per-frame results) -/
theorem reply_precedes_delivery (cfg : Cfg) (frames : List Bytes)
    (hv : ∀ f ∈ frames, ValidFrame cfg.mode f) (hp : ∀ f ∈ frames, cfg.parse (f.tail) ≠ .panic)
    (evs : List Ev) (hd : dataOf evs = frames.flatten) (heof : EndsEof evs) :
    (run cfg [] evs).filter (fun i => !i.isFault) =
      frames.flatMap (fun f => if isKAFrame cfg f then [.wrote (pong cfg.mode), .pkt f (.tiny 0 0)]
                               else frameItems cfg f) ++ [.err .disconnected] := by
  rw [C05.reassembly_fresh cfg frames hv hp evs hd heof]
  congr 2
  funext f
  split
  · rename_i h; exact frame_reply.1 h
  · rfl

/-! non-vacuity -/
example : isKAFrame C05.demoCfg [1, 3, 0, 0] = true ∧ isKAFrame C05.demoCfg [1, 3, 1, 0] = false ∧
    isKAFrame C05.demoCfg [1, 3, 0, 3] = false := by decide

end Insim.Props.C07
