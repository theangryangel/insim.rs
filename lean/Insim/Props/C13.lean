import Insim.Model.Vehicle
import Insim.Gen.Vehicle
import Insim.Lemmas.Reader
/-
C13 — vehicle identifiers map one-to-one onto their 4 wire bytes.
Theorems about the hand model of `Vehicle`'s reader/writer instantiated with the tables
regenerated from insim_core/src/vehicle.rs. All quantify over *every* 4-byte value.
-/
namespace Insim.Props.C13
open Insim Insim.Vehicle Insim.Gen.Vehicle

/-- the code's read table and the independent InSim v9 table are the same finite map -/
theorem read_table_is_spec :
    (∀ r ∈ readRows, specRows.lookup r.1 = some r.2) ∧ (∀ r ∈ specRows, readRows.lookup r.1 = some r.2) := by decide +kernel

/-- **rule**: for every byte string the reader follows the InSim v9 classification -/
theorem rule (b : Bytes) : decode readRows b = classify b := by
  unfold decode classify
  split
  · rw [lookup_eq_of_agree read_table_is_spec.1 read_table_is_spec.2]
  · rfl

/-- every literal read arm is mirrored by the write arm of the same variant -/
theorem write_mirrors_read : ∀ r ∈ readRows, writeRows.lookup r.2 = some r.1 := by decide +kernel

/-- **reencode**: whatever 4 bytes decode to re-encodes to the identical 4 bytes (all 2^32 words) -/
theorem reencode (b : Bytes) (hb : IsBytes b) (v : Veh) (h : decode readRows b = .ok v) :
    encode writeRows v = .ok b := by
  unfold decode at h
  split at h
  case h_2 => cases h
  rename_i b0 b1 b2 b3
  -- all zero; the built-in shape, in the table or not; a mod's id
  split at h
  · obtain ⟨rfl, rfl, rfl, rfl⟩ := ‹_ ∧ _›
    cases h; rfl
  split at h
  · split at h
    · cases h
      simp [encode, write_mirrors_read _ (lookup_some_mem ‹_›)]
    · cases h
  · cases h
    simpa [encode] using congrArg Out.ok (leBytes_ofLe [b0, b1, b2, b3] hb)

/-- decoding is injective on successful results: no two wire values name the same vehicle -/
theorem decode_injective (b b' : Bytes) (hb : IsBytes b) (hb' : IsBytes b') (v : Veh)
    (h : decode readRows b = .ok v) (h' : decode readRows b' = .ok v) : b = b' :=
  Out.ok.inj ((reencode b hb v h).symm.trans (reencode b' hb' v h'))

/-- **no confusion**: a mod id is produced only for bytes that are neither all zero nor of the
built-in shape, and a built-in only for bytes of the built-in shape -/
theorem no_confusion (b0 b1 b2 b3 : Nat) :
    (∀ id, decode readRows [b0, b1, b2, b3] = .ok (.mod id) →
        isBuiltinShape b0 b1 b2 b3 = false ∧ ¬ (b0 = 0 ∧ b1 = 0 ∧ b2 = 0 ∧ b3 = 0) ∧ id = ofLe [b0, b1, b2, b3]) ∧
    (∀ n, decode readRows [b0, b1, b2, b3] = .ok (.builtin n) → isBuiltinShape b0 b1 b2 b3 = true) := by
  constructor
  · intro id h
    simp only [decode] at h
    split at h
    · cases h
    split at h
    · split at h <;> cases h
    · cases h
      exact ⟨by simpa using ‹¬ _ = true›, ‹_›, rfl⟩
  · intro n h
    simp only [decode] at h
    split at h
    · cases h
    split at h
    · assumption
    · cases h

/-- **unrecognised built-in-style name is an error**, never some other car -/
theorem unknown_name_is_error (b0 b1 b2 b3 : Nat) (hs : isBuiltinShape b0 b1 b2 b3 = true)
    (hn : specRows.lookup [b0, b1, b2, b3] = none) : decode readRows [b0, b1, b2, b3] = .err .decode := by
  rw [rule]
  simp only [classify]
  have hz : ¬ (b0 = 0 ∧ b1 = 0 ∧ b2 = 0 ∧ b3 = 0) := by
    intro ⟨h0, _, _, _⟩; subst h0; simp [isBuiltinShape, isAlnum] at hs
  simp [hz, hs, hn]

/-- **display is wire**: every built-in's printed name is its wire name (wire = name ++ NUL) -/
theorem display_is_wire :
    builtins.all (fun n => match displayRows.lookup n, writeRows.lookup n with
      | some d, some w => w == d ++ [0]
      | _, _ => false) = true := by decide +kernel

/-- the write table covers every built-in variant (the model's `err encode` branch is dead) -/
theorem write_total : builtins.all (fun n => (writeRows.lookup n).isSome) = true := by decide +kernel

/-- every read arm names a declared variant -/
theorem read_names_declared : readRows.all (fun r => builtins.contains r.2) = true := by decide +kernel

/-! non-vacuity: concrete values meeting the hypotheses -/
example : decode readRows [88, 82, 84, 0] = .ok (.builtin [88, 114, 116]) := by decide
example : decode readRows [0x3D, 0x5A, 0x4F, 0x00] = .ok (.mod 0x4F5A3D) := by decide
example : decode readRows [65, 65, 65, 0] = .err .decode := by decide
example : IsBytes [88, 82, 84, 0] := by decide

/-! ### the four bytes reach the decoder through `read_exact` -/

/-- **the decoder does not see how the source cuts its data**: read through `read_exact`, the identifier decodes to what its
first four bytes decode to and the source is left right behind them; with fewer than four bytes left the read fails -/
theorem segmented_read (pieces : List Bytes) :
    (pieces.flatten.length < 4 ∧ Reader.decodeFrom 4 (decode readRows) pieces = (.err .decode, none)) ∨
    (4 ≤ pieces.flatten.length ∧ ∃ rest, Reader.decodeFrom 4 (decode readRows) pieces = (decode readRows (pieces.flatten.take 4), some rest) ∧
       rest.flatten = pieces.flatten.drop 4) :=
  Reader.decodeFrom_spec 4 (decode readRows) pieces

end Insim.Props.C13
