import Insim.Model.Ws
import Insim.Props.C05
/-
C20 — the WebSocket relay transport carries the same byte stream as TCP.
-/
namespace Insim.Props.C20
open Insim Insim.Conn Insim.Frame
open Insim.Ws (Msg RRes payload)

/-! `Ws.read` serves from the buffer when it can, and otherwise pulls one message into the buffer and tries again -/

theorem read_serve (closed : Bool) (buf : Bytes) (offer : Nat) (msgs : List Msg) (h : buf ≠ [] ∧ offer > 0) :
    Ws.read closed buf offer msgs = (.chunk (buf.take offer), buf.drop offer, msgs) := by
  unfold Ws.read
  split <;> rw [if_pos h]

theorem read_pull (closed : Bool) (buf : Bytes) (offer : Nat) (m : Msg) (rest : List Msg) (h : ¬(buf ≠ [] ∧ offer > 0)) :
    Ws.read closed buf offer (m :: rest) = Ws.read closed (buf ++ payload m) offer rest := by
  cases m <;> rw [Ws.read, if_neg h, payload]
  rw [List.append_nil]

/-- one read conserves the stream: what it serves, what it leaves buffered and the payloads of the
messages still queued are the buffered bytes followed by all binary payloads, in order -/
theorem read_conserved (closed : Bool) (buf : Bytes) (offer : Nat) (msgs : List Msg) :
    (match (Ws.read closed buf offer msgs).1 with | .chunk c => c | .pending => []) ++
      ((Ws.read closed buf offer msgs).2.1 ++ ((Ws.read closed buf offer msgs).2.2.map payload).flatten) =
    buf ++ (msgs.map payload).flatten := by
  induction msgs generalizing buf with
  | nil =>
    by_cases h : buf ≠ [] ∧ offer > 0
    · rw [read_serve closed buf offer [] h, ← List.append_assoc, List.take_append_drop]
    · cases closed <;> simp [Ws.read, h]
  | cons m rest ih =>
    by_cases h : buf ≠ [] ∧ offer > 0
    · rw [read_serve closed buf offer _ h, ← List.append_assoc, List.take_append_drop]
    · rw [read_pull closed buf offer m rest h, ih, List.map_cons, List.flatten_cons, List.append_assoc]

/-- **same byte stream as TCP**: for every message sequence — frames one per message, several per
message or split across messages; messages larger than the adaptor's initial buffer; text / ping /
pong messages interleaved — and every sequence of caller read-buffer sizes, the chunks served, the
buffered remainder and the payloads still queued are exactly all binary payloads in order -/
theorem stream_conserved (closed : Bool) (buf : Bytes) (offers : List Nat) (msgs : List Msg) :
    (Ws.run closed buf offers msgs).1.flatten ++ (Ws.run closed buf offers msgs).2.1 ++
      ((Ws.run closed buf offers msgs).2.2.map payload).flatten = buf ++ (msgs.map payload).flatten := by
  rw [List.append_assoc]
  induction offers generalizing buf msgs with
  | nil => rfl
  | cons o os ih =>
    have hc := read_conserved closed buf o msgs
    simp only [Ws.run]
    split <;> (rename_i he; rw [he] at hc)
    · exact hc
    · exact hc
    · exact served_cons hc (ih _ _)

/-- non-binary messages are ignored: a text / ping / pong message in front changes nothing about
what the read serves -/
theorem other_skipped (closed : Bool) (buf : Bytes) (offer : Nat) (rest : List Msg) :
    (Ws.read closed buf offer (.other :: rest)).1 = (Ws.read closed buf offer rest).1 ∧
    (Ws.read closed buf offer (.other :: rest)).2.1 = (Ws.read closed buf offer rest).2.1 := by
  by_cases h : buf ≠ [] ∧ offer > 0
  · rw [read_serve closed buf offer _ h, read_serve closed buf offer _ h]; exact ⟨rfl, rfl⟩
  · rw [read_pull closed buf offer _ rest h, payload, List.append_nil]; exact ⟨rfl, rfl⟩

/-- closure surfaces as a zero-byte read (which the connection reports as `disconnected`) exactly
when nothing is buffered and no message is left -/
theorem closed_is_eof (offer : Nat) : Ws.read true [] offer [] = (.chunk [], [], []) := by
  simp [Ws.read]

theorem open_is_pending (offer : Nat) : Ws.read false [] offer [] = (.pending, [], []) := by
  simp [Ws.read]

/-- a served chunk is never empty unless the stream is over -/
theorem chunk_progress (closed : Bool) (buf : Bytes) (offer : Nat) (msgs : List Msg) (ho : 0 < offer)
    (h : (Ws.read closed buf offer msgs).1 = .chunk []) :
    closed = true ∧ buf = [] ∧ (msgs.map payload).flatten = [] := by
  -- with a positive offer the buffer is served as soon as it holds anything, and then the chunk is not empty
  have hnil : ∀ (buf : Bytes) (msgs : List Msg), (Ws.read closed buf offer msgs).1 = .chunk [] → buf = [] := by
    intro buf msgs h
    by_cases hb : buf = []
    · exact hb
    · rw [read_serve closed buf offer msgs ⟨hb, ho⟩] at h
      simp [hb, Nat.ne_of_gt ho] at h
  induction msgs generalizing buf with
  | nil =>
    cases hnil buf [] h
    cases closed
    · cases h
    · exact ⟨rfl, rfl, rfl⟩
  | cons m rest ih =>
    cases hnil buf _ h
    rw [read_pull closed [] offer m rest (by simp), List.nil_append] at h
    obtain ⟨hc, hm, hr⟩ := ih _ h
    exact ⟨hc, rfl, by rw [List.map_cons, List.flatten_cons, hm, hr]; rfl⟩

/-- the chunks the adaptor serves, as read events of the connection (a zero-byte chunk is the end) -/
def events : List Bytes → List Ev
  | [] => []
  | [] :: _ => [.eof]
  | c :: cs => .data c :: events cs

/-- served chunks that end with the zero-byte read, none empty before it: each is one read, then the stream ends -/
theorem events_closed (chunks : List Bytes) (hne : ∀ c ∈ chunks, c ≠ []) :
    events (chunks ++ [[]]) = chunks.map .data ++ [.eof] := by
  induction chunks with
  | nil => rfl
  | cons c cs ih =>
    cases c with
    | nil => exact absurd rfl (hne [] (by simp))
    | cons x xs => exact congrArg (Ev.data (x :: xs) :: ·) (ih fun y hy => hne y (List.mem_cons_of_mem _ hy))

/-- **packets over the WebSocket transport = packets over TCP**: however the frames are distributed over binary
messages (and whatever other messages are interleaved), once the adaptor has served everything and reported
the closure, the connection's results are exactly one per frame, then `disconnected` -/
theorem packets (cfg : Cfg) (frames : List Bytes) (msgs : List Msg) (offers : List Nat) (chunks : List Bytes)
    (hv : ∀ f ∈ frames, ValidFrame cfg.mode f) (hp : ∀ f ∈ frames, cfg.parse f.tail ≠ .panic)
    (hsplit : (msgs.map payload).flatten = frames.flatten)
    (hrun : (Ws.run true [] offers msgs).1 = chunks ++ [[]]) (hne : ∀ c ∈ chunks, c ≠ [])
    (hall : (Ws.run true [] offers msgs).2.1 = [] ∧ ((Ws.run true [] offers msgs).2.2.map payload).flatten = []) :
    (Conn.run cfg [] (events (Ws.run true [] offers msgs).1)).filter (fun i => !i.isFault) =
      frames.flatMap (frameItems cfg) ++ [.err .disconnected] := by
  rw [hrun, events_closed chunks hne]
  apply C05.reassembly_fresh cfg frames hv hp
  · rw [dataOf_data, dataOf, List.append_nil]
    have := stream_conserved true [] offers msgs
    rw [hall.1, hall.2, hrun] at this
    simpa [hsplit] using this
  · exact (endsEof_data _ _).mpr trivial

/-- **every written packet leaves as exactly one binary message containing exactly its frame** -/
theorem write_one_message (frames : List Bytes) (sent : List Msg) :
    frames.foldl (fun s f => Ws.write f s) sent = sent ++ frames.map Msg.binary := by
  simp only [Ws.write, List.foldl_append_eq_append, ← List.flatMap_def, ← List.map_eq_flatMap]

/-! non-vacuity: a frame split across two messages with a ping in between, caller buffer of 3 bytes -/
example : (Ws.run true [] [3, 3, 3, 3] [.binary [1, 3], .other, .binary [0, 0, 1, 3, 7, 5]]).1 = [[1, 3], [0, 0, 1], [3, 7, 5], []] := by
  decide

/-- non-vacuity of `packets`: two frames spread over two binary messages with a text message in between, served
in slices of three bytes, then the closure -/
example : (Ws.run true [] [3, 3, 3, 3, 3, 3] [.binary [4, 3, 0, 0, 4], .other, .binary [3, 7, 3]]) =
    ([[4, 3, 0], [0, 4], [3, 7, 3]] ++ [[]], [], []) := by decide

end Insim.Props.C20
