import Insim.Props.C05
/-
C09 — the InSim version gate accepts version 9 only, and only when enabled.
-/
namespace Insim.Props.C09
open Insim Insim.Frame Insim.Conn

/-- gate enabled: a version packet is delivered iff it reports 9; otherwise the
incompatible-version error carries the reported value — for every value -/
theorem gate_on (cfg : Cfg) (hv : cfg.verify = true) (f : Bytes) (n : Nat) (h : cfg.parse (f.tail) = .ok (.ver n)) :
    frameItems cfg f = if n = 9 then [.pkt f (.ver n)] else [.err (.version n)] := by
  simp only [frameItems, h, hv, versionReject, insimVersion]
  by_cases hn : n = 9
  · subst hn; simp [isKeepAlive]
  · simp [hn]

/-- gate disabled: every version packet is delivered -/
theorem gate_off (cfg : Cfg) (hv : cfg.verify = false) (f : Bytes) (n : Nat) (h : cfg.parse (f.tail) = .ok (.ver n)) :
    frameItems cfg f = [.pkt f (.ver n)] := by
  simp only [frameItems, h, hv]
  simp [isKeepAlive]

/-- no other packet kind is ever rejected by the gate, in either setting -/
theorem others (c : Cls) (h : ∀ n, c ≠ .ver n) : versionReject c = none := by
  cases c with
  | ver n => exact absurd rfl (h n)
  | tiny r s => rfl
  | other => rfl

theorem others_delivered (cfg : Cfg) (f : Bytes) (c : Cls) (h : cfg.parse (f.tail) = .ok c) (hc : ∀ n, c ≠ .ver n) :
    .pkt f c ∈ frameItems cfg f ∧ ∀ n, Item.err (.version n) ∉ frameItems cfg f := by
  -- on or off, the gate lets `c` through; what is left is the keep-alive test, and both branches deliver `c`
  have hg : (if cfg.verify = true then versionReject c else none) = none := by rw [others c hc, ite_self]
  simp only [frameItems, h, hg]
  split <;> simp

/-- **any position in any history**: the gate's decision for a frame does not depend on where the
frame sits, how the stream is segmented, or what surrounds it; the rejected frame is removed and its
successors are undisturbed (the trace is the concatenation of per-frame results) -/
theorem gate_in_history (cfg : Cfg) (pre post : List Bytes) (f : Bytes) (n : Nat)
    (hver : cfg.verify = true) (hn : n ≠ 9) (hf : cfg.parse (f.tail) = .ok (.ver n))
    (hv : ∀ g ∈ pre ++ f :: post, ValidFrame cfg.mode g) (hp : ∀ g ∈ pre ++ f :: post, cfg.parse (g.tail) ≠ .panic)
    (evs : List Ev) (hd : dataOf evs = (pre ++ f :: post).flatten) (heof : EndsEof evs) :
    (run cfg [] evs).filter (fun i => !i.isFault) =
      pre.flatMap (frameItems cfg) ++ [.err (.version n)] ++ post.flatMap (frameItems cfg) ++ [.err .disconnected] := by
  rw [C05.reassembly_fresh cfg _ hv hp evs hd heof, List.flatMap_append, List.flatMap_cons, gate_on cfg hver f n hf]
  simp [hn]

/-! non-vacuity -/
def vcfg (on : Bool) : Cfg := { mode := ⟨false⟩, verify := on, parse := fun b => match b with
  | [2, _, n] => .ok (.ver n) | _ => .ok .other }
example : frameItems (vcfg true) [4, 2, 0, 8] = [.err (.version 8)] := by decide
example : frameItems (vcfg true) [4, 2, 0, 9] = [.pkt [4, 2, 0, 9] (.ver 9)] := by decide
example : frameItems (vcfg false) [4, 2, 0, 8] = [.pkt [4, 2, 0, 8] (.ver 8)] := by decide

end Insim.Props.C09
