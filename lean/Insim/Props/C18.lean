import Insim.Model.Builder
import Insim.Gen.Builder
import Insim.Base.Table
/-
C18 — the handshake carries exactly the configured connection options.
Refinement of the builder to "the last writer wins, documented defaults otherwise", for every
sequence of setter calls.
-/
namespace Insim.Props.C18
open Insim Insim.Bld

/-- generic "last writer wins": if every op either overwrites a field with `g op` or leaves it alone,
the field after any sequence of ops is the last opinion, or the initial value -/
theorem last_writer {α} (field : Cfg → α) (g : Op → Option α)
    (h : ∀ c op, field (apply c op) = (g op).getD (field c)) (ops : List Op) (c : Cfg) :
    field (ops.foldl apply c) = (lastSome g ops).getD (field c) := by
  induction ops generalizing c with
  | nil => rfl
  | cons op rest ih =>
    simp only [List.foldl_cons, lastSome]
    rw [ih]
    cases lastSome g rest with
    | some v => rfl
    | none => simp [h]

/-! the opinion of each op about each handshake field -/
def gPfx : Op → Option (Option Nat) | .pfx p => some p | _ => none
def gInterval : Op → Option (Option Nat) | .interval i => some i | _ => none
def gIname : Op → Option (Option (List Nat)) | .iname s => some s | _ => none
def gAdmin : Op → Option (Option (List Nat)) | .admin s => some s | _ => none
def gReqi : Op → Option Nat | .reqi r => some r | _ => none
def gMode : Op → Option Bool | .mode m => some m | _ => none
def gProto : Op → Option Proto | .tcp => some .tcp | .udp _ => some .udp | .relay => some .relay | _ => none
def gLocal : Op → Option (Option Nat) | .udp l => some l | _ => none
/-- bit `i` of the flags: wholesale replacement decides every bit; a flag helper decides the bits of its mask -/
def gBit (i : Nat) : Op → Option Bool
  | .flags v => some (v.getLsbD i)
  | .flag m on => if m.getLsbD i then some on else none
  | _ => none

theorem pfx_last (ops : List Op) : (run ops).pfx = (lastSome gPfx ops).getD none :=
  last_writer (·.pfx) gPfx (by intro c op; cases op <;> rfl) ops {}
theorem interval_last (ops : List Op) : (run ops).interval = (lastSome gInterval ops).getD none :=
  last_writer (·.interval) gInterval (by intro c op; cases op <;> rfl) ops {}
theorem iname_last (ops : List Op) : (run ops).iname = (lastSome gIname ops).getD none :=
  last_writer (·.iname) gIname (by intro c op; cases op <;> rfl) ops {}
theorem admin_last (ops : List Op) : (run ops).admin = (lastSome gAdmin ops).getD none :=
  last_writer (·.admin) gAdmin (by intro c op; cases op <;> rfl) ops {}
theorem reqi_last (ops : List Op) : (run ops).reqi = (lastSome gReqi ops).getD 0 :=
  last_writer (·.reqi) gReqi (by intro c op; cases op <;> rfl) ops {}
theorem mode_last (ops : List Op) : (run ops).compressed = (lastSome gMode ops).getD true :=
  last_writer (·.compressed) gMode (by intro c op; cases op <;> rfl) ops {}
theorem proto_last (ops : List Op) : (run ops).proto = (lastSome gProto ops).getD .tcp :=
  last_writer (·.proto) gProto (by intro c op; cases op <;> rfl) ops {}
theorem local_last (ops : List Op) : (run ops).udpLocalPort = (lastSome gLocal ops).getD none :=
  last_writer (·.udpLocalPort) gLocal (by intro c op; cases op <;> rfl) ops {}

/-- every flag bit: the last `isi_flags` replacement or `isi_flag_*` call touching that bit wins;
untouched bits are clear -/
theorem flag_bit_last (i : Nat) (hi : i < 16) (ops : List Op) :
    (run ops).flags.getLsbD i = (lastSome (gBit i) ops).getD false := by
  have := last_writer (fun c => c.flags.getLsbD i) (gBit i) (by
    intro c op
    cases op <;> simp only [apply, gBit, Option.getD]
    rename_i m on
    cases on <;> cases hm : m.getLsbD i <;>
      simp only [setMask, Bool.false_eq_true, if_false, if_true, BitVec.getLsbD_or, BitVec.getLsbD_and,
        BitVec.getLsbD_not, hm, hi, decide_true, Bool.not_false, Bool.not_true, Bool.and_true, Bool.and_false,
        Bool.or_false, Bool.or_true]) ops {}
  simpa [run] using this

/-- **the ISI carries exactly the configured options, with the documented defaults** -/
theorem isi_last_writer (dn : List Nat) (ver : Nat) (ops : List Op) :
    let p := isi dn ver (run ops)
    p.reqi = (lastSome gReqi ops).getD 0 ∧
    p.pfx = ((lastSome gPfx ops).getD none).getD 0 ∧
    p.interval = ((lastSome gInterval ops).getD none).getD 0 ∧
    p.admin = ((lastSome gAdmin ops).getD none).getD [] ∧
    p.iname = ((lastSome gIname ops).getD none).getD dn ∧
    p.version = ver ∧
    p.udpport = (match (lastSome gProto ops).getD .tcp with
      | .udp => ((lastSome gLocal ops).getD none).getD 0
      | _ => 0) ∧
    (∀ i, i < 16 → p.flags.getLsbD i = (lastSome (gBit i) ops).getD false) := by
  refine ⟨reqi_last ops, congrArg (·.getD 0) (pfx_last ops), congrArg (·.getD 0) (interval_last ops),
    congrArg (·.getD []) (admin_last ops), congrArg (·.getD dn) (iname_last ops), rfl, ?_, fun i hi => flag_bit_last i hi ops⟩
  show (match (run ops).proto with | .udp => (run ops).udpLocalPort.getD 0 | _ => 0) = _
  rw [proto_last, local_last]

/-- the flag helpers set the bits the specification assigns (ISF_LOCAL 4 … ISF_REQ_JOIN 2048), and the protocol version is 9 -/
def specSetters : List (List Nat × Nat) := [
  ([108, 111, 99, 97, 108], 4), ([109, 115, 111, 95, 99, 111, 108, 115], 8), ([110, 108, 112], 16), ([109, 99, 105], 32),
  ([99, 111, 110], 64), ([111, 98, 104], 128), ([104, 108, 118], 256), ([97, 120, 109, 95, 108, 111, 97, 100], 512),
  ([97, 120, 109, 95, 101, 100, 105, 116], 1024), ([114, 101, 113, 95, 106, 111, 105, 110], 2048) ]
-- local mso_cols nlp mci con obh hlv axm_load axm_edit req_join

theorem setters_are_spec :
    (specSetters.all (fun r => optBeqN (lookupB r.1 Gen.Builder.flagSetters) r.2)
      && Gen.Builder.flagSetters.all (fun r => optBeqN (lookupB r.1 specSetters) r.2)
      && Nat.beq Gen.Builder.insimVersion 9) = true := by decide +kernel

/-! non-vacuity -/
example : (isi [105] 9 (run [.flag 32#16 true, .flags 4#16, .flag 128#16 true, .udp (some 3000), .pfx (some 33), .flag 4#16 false, .pfx none])).flags = 128#16 := by decide
example : (isi [105] 9 (run [.udp none])).udpport = 0 := by decide
example : lastSome (gBit 7) [.flag 128#16 true, .flags 0#16, .flag 128#16 true, .other] = some true := by decide

end Insim.Props.C18
