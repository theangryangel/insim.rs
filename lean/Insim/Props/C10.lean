import Insim.Lemmas.Codepage
import Insim.Gen.Codepages
import Insim.Base.Table
/-
C10 — codepage text conversion is faithful, total and uses LFS's tables.
`toBytes`/`toString` are total functions (structural recursion; no panic value exists in the model).
The codec family is abstract; `Laws` records what the proofs need from `encoding_rs` (texts with carets need one more law,
`LeadLaw`, typed text fields another, `Text.NulLaw`).
-/
namespace Insim.Props.C10
open Insim Insim.Cp

structure Laws (cp : Mk → CP) : Prop where
  /-- empty input decodes to nothing -/
  decNil : ∀ x, (cp x).dec [] = []
  /-- at a character boundary an ASCII byte decodes to itself -/
  ascii : ∀ x (c : Nat) r, isAscii c = true → (cp x).dec (c :: r) = c :: (cp x).dec r
  /-- the decoder inverts the encoder at a character boundary -/
  decEnc : ∀ x c bs r, (cp x).enc c = some bs → (cp x).dec (bs ++ r) = c :: (cp x).dec r
  /-- marker safety: no encoded byte is a caret -/
  noCaret : ∀ x c bs, (cp x).enc c = some bs → (94 : Nat) ∉ bs

/-- the character exists in at least one of the ten codepages -/
def Encodable (cp : Mk → CP) (c : Nat) : Prop := ∃ x bs, (cp x).enc c = some bs

/-- a fifth law, needed only when carets occur in the text: the first byte of an encoded non-ASCII
character is never a codepage letter or '8' (true of every real table: lead bytes are ≥ 0x80) -/
def LeadLaw (cp : Mk → CP) : Prop :=
  ∀ x c b bs, isAscii c = false → (cp x).enc c = some (b :: bs) → mk? b = none

/-- every caret of the text is followed by something that is not a codepage letter or '8' (or by nothing) -/
def CaretOk : Str → Prop
  | [] => True
  | [_] => True
  | c :: d :: rest => (c = 94 → mk? d = none) ∧ CaretOk (d :: rest)

theorem caretOk_cons {a : Nat} {l : Str} : CaretOk (a :: l) ↔ (a = 94 → ∀ x ∈ l.head?, mk? x = none) ∧ CaretOk l := by
  cases l <;> simp [CaretOk]

theorem caretOk_of_ne (s : Str) (h : ∀ c ∈ s, c ≠ 94) : CaretOk s := by
  induction s with
  | nil => trivial
  | cons c cs ih =>
    rw [List.forall_mem_cons] at h
    exact caretOk_cons.2 ⟨fun e => absurd e h.1, ih h.2⟩

theorem enc_nonempty {cp : Mk → CP} (L : Laws cp) {x : Mk} {c : Nat} (h : (cp x).enc c = some []) : False := by
  simpa [] using L.decEnc x c [] [] h

/-- the encoder's first byte is a marker letter only if the text's first character is one -/
theorem encGo_head {cp : Mk → CP} {order : List Mk} (L : Laws cp) (LL : LeadLaw cp) (cur : Mk) (s : Str)
    (hd : ∀ d ∈ s.head?, mk? d = none) : ∀ y ∈ (encGo cp order cur s).head?, mk? y = none := by
  cases s with
  | nil => simp [encGo]
  | cons d ds =>
    obtain ⟨x, bs, hst, hgo⟩ := encGo_cons cp order cur d
    rw [(hgo ds).1]
    cases hst with
    | ascii _ => simpa using hd
    | same ha he =>
      cases bs with
      | nil => exact (enc_nonempty L he).elim
      | cons b r => simpa using LL cur d b r ha he
    | switch _ | lost _ _ => simp; decide

/-- main invariant: `acc` already decodes (in `cur`) to `pre`, independently of what follows. The lead law is
wanted only for the character after a caret. -/
theorem faithful_go (cp : Mk → CP) (order : List Mk) (ho : ∀ x : Mk, x ∈ order) (L : Laws cp) (s : Str)
    (hs : ∀ c ∈ s, isAscii c = true ∨ Encodable cp c) (hc : CaretOk s) (LL : 94 ∈ s → LeadLaw cp) :
    ∀ (cur : Mk) (acc : Bytes) (pre : Str),
      (∀ r, (cp cur).dec (acc ++ r) = pre ++ (cp cur).dec r) →
      decGo cp cur acc (encGo cp order cur s) = pre ++ s := by
  induction s with
  | nil =>
    intro cur acc pre hp
    simpa [encGo, decGo, L.decNil] using hp []
  | cons c cs ih =>
    intro cur acc pre hp
    rw [List.forall_mem_cons] at hs
    have hct := caretOk_cons.1 hc
    have ih := ih hs.2 hct.2 (fun h => LL (List.mem_cons_of_mem _ h))
    obtain ⟨x, bs, hst, hgo⟩ := encGo_cons cp order cur c
    rw [(hgo cs).1, List.append_cons]
    cases hst with
    | ascii ha =>
      -- copied; if it is a caret, what follows does not start with a marker byte
      have hnext : c = 94 → ∀ y ∈ (encGo cp order cur cs).head?, mk? y = none :=
        fun e => encGo_head L (LL (e ▸ List.mem_cons_self)) cur cs (hct.1 e)
      rw [List.singleton_append, decGo_step cp cur acc c _ hnext]
      exact ih cur _ _ fun r => by simp [hp, L.ascii cur c r ha]
    | same ha he =>
      rw [decGo_skip cp cur acc bs _ (L.noCaret cur c bs he)]
      exact ih cur _ _ fun r => by simp [hp, L.decEnc cur c bs r he]
    | switch he =>
      rename_i bs
      have hpre : (cp cur).dec acc = pre := by simpa [L.decNil] using hp []
      rw [List.cons_append, List.cons_append, decGo_marker cp cur acc _ (mk_byte x),
        decGo_skip cp x [] bs _ (L.noCaret x c bs he), ih x ([] ++ bs) [c] fun r => by simp [L.decEnc x c bs r he]]
      simp [hpre]
    | lost ha hall =>
      rcases hs.1 with h | ⟨y, bs, he⟩
      · simp [ha] at h
      · simp [hall y (ho y)] at he

/-- **faithful, carets included**: text whose characters each exist in some codepage, in which no caret is
followed by a codepage letter or '8', survives encode-then-decode unchanged -/
theorem faithful_carets (cp : Mk → CP) (order : List Mk) (ho : ∀ x : Mk, x ∈ order) (L : Laws cp) (LL : LeadLaw cp) (s : Str)
    (hs : ∀ c ∈ s, isAscii c = true ∨ Encodable cp c) (hc : CaretOk s) :
    Cp.toString cp (toBytes cp order s) = s := by
  rw [toBytes_eq_encGo]
  exact faithful_go cp order ho L s hs hc (fun _ => LL) .L [] [] (by simp)

/-- **faithful**: text without carets whose characters each exist in at least one codepage survives
encode-then-decode unchanged — any length, any order of codepage switches, characters shared
between codepages included; for every search order that lists all ten codepages -/
theorem faithful (cp : Mk → CP) (order : List Mk) (ho : ∀ x : Mk, x ∈ order) (L : Laws cp) (s : Str)
    (hs : ∀ c ∈ s, c ≠ 94 ∧ (isAscii c = true ∨ Encodable cp c)) :
    toString cp (toBytes cp order s) = s := by
  rw [toBytes_eq_encGo]
  exact faithful_go cp order ho L s (fun c h => (hs c h).2) (caretOk_of_ne s fun c h => (hs c h).1)
    (fun h => absurd rfl (hs 94 h).1) .L [] [] (by simp)

/-- **ASCII passes through byte for byte** -/
theorem ascii_passthrough (cp : Mk → CP) (order : List Mk) (s : Str) (h : s.all isAscii = true) :
    toBytes cp order s = s :=
  if_pos h

/-- a character no codepage can encode -/
def Unencodable (cp : Mk → CP) (c : Nat) : Prop := isAscii c = false ∧ ∀ x, (cp x).enc c = none

/-- **lossy but local**: a character that exists in no codepage becomes `?` and leaves the encoder's
state — hence every neighbour's bytes — exactly as if a literal `?` had been written -/
theorem lossy_local (cp : Mk → CP) (order : List Mk) (cur : Mk) (pre : Str) (c : Nat) (post : Str)
    (hu : Unencodable cp c) :
    encGo cp order cur (pre ++ c :: post) = encGo cp order cur (pre ++ 63 :: post) := by
  induction pre generalizing cur with
  | nil => simp [encGo, hu.1, hu.2 cur, (findCp_none (hu.2 cur)).mpr fun x _ => hu.2 x, show isAscii 63 = true from rfl]
  | cons p ps ih =>
    obtain ⟨x, bs, -, hgo⟩ := encGo_cons cp order cur p
    simp only [List.cons_append, hgo, ih]

theorem lossy_local_toBytes (cp : Mk → CP) (order : List Mk) (pre : Str) (c : Nat) (post : Str) (hu : Unencodable cp c) :
    toBytes cp order (pre ++ c :: post) = toBytes cp order (pre ++ 63 :: post) := by
  rw [toBytes_eq_encGo, toBytes_eq_encGo, lossy_local cp order .L pre c post hu]

/-- **marker semantics**: bytes following `^X` are interpreted in the codepage of `X` until the next
marker; `^8` selects Latin-1 *and* is kept in the text -/
theorem marker_semantics (cp : Mk → CP) (cur : Mk) (acc : Bytes) (x : Nat) (m : Mk) (keep : Bool) (seg rest : Bytes)
    (hm : mk? x = some (m, keep)) (hseg : (94 : Nat) ∉ seg) (y : Nat) (n : Mk) (k2 : Bool) (hn : mk? y = some (n, k2)) :
    decGo cp cur acc (94 :: x :: (seg ++ 94 :: y :: rest)) =
      (cp cur).dec acc ++ (if keep then [94, 56] else []) ++ (cp m).dec seg ++ (if k2 then [94, 56] else []) ++ decGo cp n [] rest := by
  rw [decGo_marker cp cur acc _ hm, decGo_skip cp m [] seg _ hseg, decGo_marker cp m _ _ hn]
  simp

theorem marker_to_end (cp : Mk → CP) (cur : Mk) (acc : Bytes) (x : Nat) (m : Mk) (keep : Bool) (seg : Bytes)
    (hm : mk? x = some (m, keep)) (hseg : (94 : Nat) ∉ seg) :
    decGo cp cur acc (94 :: x :: seg) = (cp cur).dec acc ++ (if keep then [94, 56] else []) ++ (cp m).dec seg := by
  have hend : decGo cp m [] seg = (cp m).dec seg := by simpa [decGo] using decGo_skip cp m [] seg [] hseg
  rw [decGo_marker cp cur acc _ hm, hend]

/-- `^8` returns to Latin-1 and is kept -/
theorem caret8 : mk? 56 = some (.L, true) := by decide

/-! ### LFS's table, against the table regenerated from the source -/

def name (s : String) : List Nat := s.toList.map Char.toNat

/-- LFS: L=1252 G=1253 C=1251 E=1250 T=1254 B=1257 J=932 S=936 K=949 H=950 (as encoding_rs statics) -/
def specTable : List (Nat × List Nat) := [
  (76, [87, 73, 78, 68, 79, 87, 83, 95, 49, 50, 53, 50]),   -- L WINDOWS_1252
  (71, [87, 73, 78, 68, 79, 87, 83, 95, 49, 50, 53, 51]),   -- G WINDOWS_1253
  (67, [87, 73, 78, 68, 79, 87, 83, 95, 49, 50, 53, 49]),   -- C WINDOWS_1251
  (69, [87, 73, 78, 68, 79, 87, 83, 95, 49, 50, 53, 48]),   -- E WINDOWS_1250
  (84, [87, 73, 78, 68, 79, 87, 83, 95, 49, 50, 53, 52]),   -- T WINDOWS_1254
  (66, [87, 73, 78, 68, 79, 87, 83, 95, 49, 50, 53, 55]),   -- B WINDOWS_1257
  (74, [83, 72, 73, 70, 84, 95, 74, 73, 83]),               -- J SHIFT_JIS  (932)
  (83, [71, 66, 75]),                                       -- S GBK        (936)
  (75, [69, 85, 67, 95, 75, 82]),                           -- K EUC_KR     (949)
  (72, [66, 73, 71, 53]),                                   -- H BIG5       (950)
  (56, [87, 73, 78, 68, 79, 87, 83, 95, 49, 50, 53, 50])    -- 8 WINDOWS_1252
  ]

/-- **table**: the code's marker → encoding table is LFS's -/
theorem table_is_spec :
    (specTable.all (fun r => optBeqB (lookupN r.1 Gen.Codepages.table) r.2)
      && Gen.Codepages.table.all (fun r => optBeqB (lookupN r.1 specTable) r.2)) = true := by decide +kernel

/-- the marker set, the propagated marker, the default and the search order are the ones the model
assumes: eleven markers, `^8` kept, Latin-1 default, all ten letters searched -/
theorem markers_are_model :
    ((List.range 256).all (fun b => (mk? b).isSome == memN b Gen.Codepages.markerSet)
      && (List.range 256).all (fun b => (match mk? b with | some (_, k) => k | none => false) == memN b Gen.Codepages.propagate)
      && Nat.beq Gen.Codepages.defaultCodepage 76
      && Mk.all.all (fun m => memN m.byte Gen.Codepages.order)
      && Gen.Codepages.order.all (fun b => Mk.all.any (fun m => Nat.beq m.byte b))) = true := by decide +kernel

/-! non-vacuity: the functions evaluated on a two-codec toy family -/
def toy : Mk → CP := fun m => match m with
  | .G => { enc := fun c => if c = 945 then some [225] else none, dec := fun bs => bs.map (fun b => if b = 225 then 945 else b) }
  | _ => { enc := fun c => if c = 233 then some [233] else none, dec := fun bs => bs }
example : toBytes toy Mk.all [97, 233, 945, 98] = [97, 233, 94, 71, 225, 98] := by decide
example : toString toy [97, 233, 94, 71, 225, 98] = [97, 233, 945, 98] := by decide
example : toBytes toy Mk.all [97, 128512, 98] = [97, 63, 98] := by decide

end Insim.Props.C10
