import Insim.Model.Dur
import Insim.Gen.Durations
/-
C15 — time and race-length conversions are exact, or refused — never wrong.
-/
namespace Insim.Props.C15
open Insim Insim.Dur

/-- every wire value of a scaled time field re-encodes to itself (any width, any scale > 0) -/
theorem dur_dec_enc (w scale x : Nat) (hs : 0 < scale) (hx : x < 256 ^ w) :
    writeDur w scale (readDur scale x) = .ok x := by
  simp [writeDur, readDur, Nat.mul_div_cancel _ hs, hx]

/-- encoding rounds down to the field's resolution -/
theorem dur_floor (w scale ms x : Nat) (h : writeDur w scale ms = .ok x) :
    x = ms / scale ∧ x < 256 ^ w := by
  unfold writeDur at h; split at h
  · injection h with h; subst h; exact ⟨rfl, by assumption⟩
  · cases h

/-- … and the decoded value of what was written is the duration rounded down, never anything else -/
theorem dur_floor_ms (w scale ms x : Nat) (hs : 0 < scale) (h : writeDur w scale ms = .ok x) :
    readDur scale x ≤ ms ∧ ms < readDur scale x + scale := by
  obtain ⟨rfl, _⟩ := dur_floor w scale ms x h
  unfold readDur
  constructor
  · exact Nat.div_mul_le_self ms scale
  · have := Nat.lt_div_mul_add hs (a := ms); omega

/-- a duration beyond the field's range is refused, never wrapped -/
theorem dur_refuse (w scale ms : Nat) (h : 256 ^ w ≤ ms / scale) : writeDur w scale ms = .err .encode := by
  simp [writeDur, Nat.not_lt.mpr h]

/-- every duration field of every packet reads and writes with the same width and scale, and the
scale is 1 or 10 ms (regenerated from the field attributes on every run) -/
theorem fields_mirror : ∀ f ∈ Gen.Durations.fields,
    f.rw = f.ww ∧ f.rs = f.ws ∧ (f.rs = 1 ∨ f.rs = 10) ∧ (f.rw = 1 ∨ f.rw = 2 ∨ f.rw = 4) := by decide +kernel

/-- so every regenerated duration field round-trips every wire value -/
theorem fields_dec_enc (f : Gen.Durations.Fld) (hf : f ∈ Gen.Durations.fields) (x : Nat) (hx : x < 256 ^ f.rw) :
    writeDur f.ww f.ws (readDur f.rs x) = .ok x := by
  obtain ⟨h1, h2, h3, -⟩ := fields_mirror f hf
  rw [← h1, ← h2]
  exact dur_dec_enc _ _ _ (by rcases h3 with h | h <;> omega) hx

/-! ### race length: three bands (1..99 laps, 100..1000 laps in tens, 1..48 hours), each conversion linear on each -/

theorem byteToLaps_low (b : Nat) (h1 : 1 ≤ b) (h2 : b ≤ 99) : byteToLaps b = .laps b := by
  simp [byteToLaps, h2, Nat.ne_of_gt h1]

theorem byteToLaps_mid (b : Nat) (h1 : 100 ≤ b) (h2 : b ≤ 190) : byteToLaps b = .laps ((b - 100) * 10 + 100) := by
  have : ¬ b ≤ 99 := by omega
  have : b ≠ 0 := by omega
  simp [byteToLaps, *]

theorem byteToLaps_hours (b : Nat) (h1 : 191 ≤ b) (h2 : b ≤ 238) : byteToLaps b = .hours (b - 190) := by
  have : ¬ b ≤ 99 := by omega
  have : ¬ b ≤ 190 := by omega
  have : b ≠ 0 := by omega
  simp [byteToLaps, *]

/-- bytes 239..255 are outside the specification's table: documented fallback (practice) -/
theorem laps_unspecified (b : Nat) (hb : 239 ≤ b) : byteToLaps b = .practice := by
  have : ¬ b ≤ 99 := by omega
  have : ¬ b ≤ 190 := by omega
  have : ¬ b ≤ 238 := by omega
  simp [byteToLaps, *]

theorem lapsToByte_low (n : Nat) (h1 : 1 ≤ n) (h2 : n ≤ 99) : lapsToByte (.laps n) = n := by
  simp [lapsToByte, h1, h2]

theorem lapsToByte_mid (n : Nat) (h1 : 100 ≤ n) (h2 : n ≤ 1000) : lapsToByte (.laps n) = (n - 100) / 10 + 100 := by
  have : ¬ n ≤ 99 := by omega
  simp [lapsToByte, *]

theorem lapsToByte_hours (n : Nat) (h1 : 1 ≤ n) (h2 : n ≤ 48) : lapsToByte (.hours n) = n + 190 := by
  simp [lapsToByte, h1, h2]

/-- race length: every specified wire byte (0..238) re-encodes to itself -/
theorem laps_dec_enc (b : Nat) (hb : b ≤ 238) : lapsToByte (byteToLaps b) = b := by
  by_cases h0 : b = 0
  · subst h0; rfl
  by_cases h1 : b ≤ 99
  · rw [byteToLaps_low b (by omega) h1, lapsToByte_low b (by omega) h1]
  by_cases h2 : b ≤ 190
  · rw [byteToLaps_mid b (by omega) h2, lapsToByte_mid _ (by omega) (by omega)]; omega
  · rw [byteToLaps_hours b (by omega) hb, lapsToByte_hours _ (by omega) (by omega)]; omega

/-- encode is sound: an in-range race length decodes back to itself rounded down to the field's resolution -/
theorem laps_enc_sound (r : RaceLaps) (h : InRange r) : byteToLaps (lapsToByte r) = roundDown r := by
  cases r with
  | practice => rfl
  | laps n =>
    obtain ⟨h1, h2⟩ := h
    by_cases hn : n ≤ 99
    · rw [lapsToByte_low n h1 hn, byteToLaps_low n h1 hn, roundDown, if_neg (by omega)]
    · rw [lapsToByte_mid n (by omega) h2, byteToLaps_mid _ (by omega) (by omega), roundDown, if_pos (by omega)]
      exact congrArg RaceLaps.laps (by omega)
  | hours n =>
    obtain ⟨h1, h2⟩ := h
    rw [lapsToByte_hours n h1 h2, byteToLaps_hours _ (by omega) (by omega), Nat.add_sub_cancel]; rfl

/-- an out-of-range race length is mapped to the documented fallback, never to another valid value -/
theorem laps_out_of_range (r : RaceLaps) (h : ¬ InRange r) : lapsToByte r = 0 := by
  cases r with
  | practice => rfl
  | laps n =>
    have h : ¬ (1 ≤ n ∧ n ≤ 1000) := h
    rw [lapsToByte, if_neg (by omega), if_neg (by omega)]
  | hours n => exact if_neg h

/-! Small's time sub-types are a duration field of width 4 whose scale depends on the sub-type: `smallWriteVal scale` is
`writeDur 4 scale` by unfolding, as `2 ^ 32` and `256 ^ 4` are the same numeral. -/

theorem smallScale_pos (d scale : Nat) (hd : smallScale d = some scale) : 0 < scale := by
  unfold smallScale at hd
  split at hd
  · cases hd; decide
  · split at hd <;> cases hd; decide

/-- Small's time sub-types: every u32 wire value re-encodes to itself -/
theorem small_dec_enc (d scale u : Nat) (hd : smallScale d = some scale) (hu : u < 2 ^ 32) :
    smallWriteVal scale (smallReadMs scale u) = .ok u :=
  dur_dec_enc 4 scale u (smallScale_pos d scale hd) hu

/-- … and a time beyond the field is refused instead of being narrowed to some other value -/
theorem small_refuse (scale ms : Nat) (h : 2 ^ 32 ≤ ms / scale) : smallWriteVal scale ms = .err .encode :=
  dur_refuse 4 scale ms h

theorem small_floor (scale ms x : Nat) (h : smallWriteVal scale ms = .ok x) : x = ms / scale :=
  (dur_floor 4 scale ms x h).1

/-- Fuel: every byte re-encodes to itself -/
theorem fuel_dec_enc (b : Nat) (hb : b < 256) : fuelWrite (fuelRead b) = b := by
  unfold fuelRead; split
  · simp [fuelWrite, *]
  · simp only [fuelWrite]; omega

instance : DecidablePred InRange := fun r => by cases r <;> simp only [InRange] <;> infer_instance

/-! non-vacuity -/
example : writeDur 2 10 (readDur 10 65535) = .ok 65535 := by decide
example : writeDur 2 10 655360 = .err .encode := by decide
example : byteToLaps 191 = .hours 1 ∧ lapsToByte (.hours 1) = 191 := by decide
example : InRange (.laps 255) ∧ byteToLaps (lapsToByte (.laps 255)) = .laps 250 := by decide
example : ¬ InRange (.hours 67) ∧ lapsToByte (.hours 67) = 0 := by decide
example : smallScale 6 = some 10 := by decide

end Insim.Props.C15
