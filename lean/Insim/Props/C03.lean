import Insim.Lemmas.GenEnv
import Insim.Lemmas.Frame
/-
C03 — every successfully encoded frame is a single well-formed frame.
(The writer-side widths `wTy`, `wSize`, `fieldsWSize` of this namespace are defined at the top of Lemmas/Layout.lean, where the
length lemmas that C02 shares are stated with them.)
-/
namespace Insim.Props.C03
open Insim Insim.Layout Insim.Frame

/-- **the size byte is sound**: whenever `encode_length` answers, the length is within the mode's
bounds, the size byte announces exactly that length (no wrap: it fits a byte), and in compressed mode
the length is a multiple of 4 -/
theorem size_byte_sound (m : Mode) (len n : Nat) (h : encodeLength m len = .ok n) :
    4 ≤ len ∧ len ≤ m.maxLen ∧ m.announced n = len ∧ n < 256 ∧ (m.compressed = true → len % 4 = 0) :=
  encodeLength_ok h

/-- **refused loudly**: a length that is too small, too large, or (compressed) not a multiple of 4
is never given a size byte — the encoder aborts instead of emitting a wrong or wrapped one -/
theorem refusal (m : Mode) (len : Nat) (h : len < 4 ∨ m.maxLen < len ∨ (m.compressed = true ∧ len % 4 ≠ 0)) :
    encodeLength m len = .panic := by
  cases hr : encodeLength m len with
  | panic => rfl
  | err e => exact absurd hr (encodeLength_ne_err m len e)
  | ok n =>
    obtain ⟨h4, hmax, _, _, hc⟩ := encodeLength_ok hr
    rcases h with h | h | ⟨h1, h2⟩
    · omega
    · omega
    · exact absurd (hc h1) h2

/-! ### every kind's frame length is a multiple of 4, whatever the values

What the writer writes has the writer-side width (`encFields_length`, `encElems_length` in Lemmas/Layout.lean);
the rest is the static size table of the regenerated layouts and arithmetic modulo 4. -/

/-- a tail is a multiple of 4 long: vector elements are a multiple of 4 long, or 2 (mod 4) with a 2-byte spare after
an odd count; variable texts are 4-aligned up to a maximum that is a multiple of 4 -/
def tailSizeOk : Tail → Bool
  | .none => true
  | .vec elt _ oddW => elt.all (fun f => fixedStr f.ty) &&
      ((fieldsWSize elt % 4 == 0 && oddW == 0) || (fieldsWSize elt % 4 == 2 && oddW == 2))
  | .set _ => true
  | .strEof wn _ _ align => align == 4 && wn % 4 == 0

/-- the static size table of the regenerated layouts: fixed part ≡ 2 (mod 4) so that size byte + type
byte + body is a multiple of 4; fixed-width texts are not alignment-padded -/
def sizeOk (L : Layout) : Bool :=
  L.customBody ||
  (L.fields.all (fun f => fixedStr f.ty) && (2 + fieldsWSize L.fields) % 4 == 0 && tailSizeOk L.tail)

theorem all_sizes_ok : Gen.Packets.all.all sizeOk = true := by decide +kernel

/-- `n` elements of size `sz`, and the spare after an odd count -/
theorem vec_length_mod4 (n sz oddW : Nat) (h : (sz % 4 = 0 ∧ oddW = 0) ∨ (sz % 4 = 2 ∧ oddW = 2)) :
    (n * sz + if n % 2 = 1 then oddW else 0) % 4 = 0 := by
  -- only `sz % 4` and `n % 4` matter: in each case, the four residues of `n`
  rw [Nat.add_mod, Nat.mul_mod, ← Nat.mod_mod_of_dvd n (by decide : 2 ∣ 4)]
  have hr : n % 4 < 4 := Nat.mod_lt n (by decide)
  generalize n % 4 = r at hr ⊢
  rcases h with ⟨hm, rfl⟩ | ⟨hm, rfl⟩ <;> rw [hm] <;> revert r <;> decide

theorem encTail_length_mod4 {env : Env} (hc : env.Sized) {t : Tail} {tv : TailVal} {b : Bytes} (hs : tailSizeOk t = true)
    (h : encTail env t tv = .ok b) : b.length % 4 = 0 := by
  unfold encTail at h
  -- no tail, a counted vector, a set of words, a text to the end of the frame; anything else is refused
  split at h
  · cases h; rfl
  · simp only [tailSizeOk, Bool.and_eq_true, List.all_eq_true, Bool.or_eq_true, beq_iff_eq] at hs
    split at h <;> cases h
    rw [List.length_append, List.length_replicate, encElems_length hc hs.1 ‹_›]
    exact vec_length_mod4 _ _ _ hs.2
  · cases h
    -- a set of words is written as the concatenation of their 4-byte images
    rw [Parser.encRep_length (n := 4) (fun _ _ hb => by cases hb; exact leBytes_length 4 _) (Parser.encRep_flatMap _ _)]
    omega
  · simp only [tailSizeOk, Bool.and_eq_true, beq_iff_eq] at hs
    cases h; rw [hs.1]; exact writeStr_length_mod4 _ _ hs.2
  · cases h

/-- **every frame is a multiple of 4 long** — for every layout in the size table and *every* value the
writer accepts (in-domain or not), the body it writes makes size byte + type byte + body a multiple
of 4; so in uncompressed mode, where the encoder has no divisibility guard, alignment still holds -/
theorem frame_length_mult4 {env : Env} (hc : env.Sized) {L : Layout} (hs : sizeOk L = true) {v : PVal} {body : Bytes}
    (h : writePacket env L v = .ok body) : (body.length + 1) % 4 = 0 := by
  obtain ⟨b, hb, rfl⟩ := writePacket_ok_iff.mp h
  cases hcb : L.customBody with
  | true =>
    -- MSO: six bytes and an aligned text
    simp only [encBody, hcb, if_true, encMso] at hb
    split at hb <;> cases hb
    rename_i name msg _
    have := writeStr_length_mod4 128 (name ++ msg) (by decide)
    simp only [List.length_append, List.length_cons, List.length_nil] at this ⊢
    omega
  | false =>
    simp only [sizeOk, hcb, Bool.false_or, Bool.and_eq_true, List.all_eq_true, beq_iff_eq] at hs
    obtain ⟨b1, b2, h1, h2, rfl⟩ := encBody_ok hcb hb
    have l1 := encFields_length hc hs.1.1 h1
    have l2 := encTail_length_mod4 hc hs.2 h2
    simp only [List.length_cons, List.length_append]
    omega

/-- **well-formed**: whenever encoding succeeds the result is exactly one valid frame — length a
multiple of 4 between 4 and the mode's limit, size byte = length (uncompressed) or length / 4
(compressed) -/
theorem wellformed (m : Mode) (L : Layout) (hL : L ∈ Gen.Packets.all) (v : PVal) (f : Bytes)
    (h : Frame.encode m (writePacket genEnv L v) = .ok f) :
    f.length % 4 = 0 ∧ 4 ≤ f.length ∧ f.length ≤ m.maxLen ∧ ValidFrame m f := by
  obtain ⟨body, n, hw, -, rfl⟩ := encode_ok h
  rw [hw] at h
  obtain ⟨b, t, hf, ha, hlo, hhi⟩ := (encode_valid h).1
  exact ⟨by simpa using frame_length_mult4 genEnv_sized (List.all_eq_true.mp all_sizes_ok L hL) hw, hlo, hhi, b, t, hf, ha, hlo, hhi⟩

/-- **element counts cannot wrap inside an accepted frame**: the count byte is `len() as u8`; for
every counted kind an element is at least 4 bytes, so a frame within the 1020-byte limit holds at
most 254 of them -/
theorem count_no_wrap :
    Gen.Packets.all.all (fun L => match L.tail with
      | .vec elt _ _ => decide (4 ≤ fieldsWSize elt)
      | _ => true) = true := by decide +kernel

theorem count_fits (n eltSize hdr : Nat) (he : 4 ≤ eltSize) (h : hdr + n * eltSize ≤ 1020) : n < 256 := by
  have : n * 4 ≤ n * eltSize := Nat.mul_le_mul_left n he
  omega

/-! non-vacuity -/
example : encodeLength ⟨true⟩ 1024 = .panic := by decide
example : encodeLength ⟨true⟩ 1020 = .ok 255 := by decide
example : encodeLength ⟨false⟩ 256 = .panic := by decide
example : encodeLength ⟨true⟩ 10 = .panic := by decide

end Insim.Props.C03
