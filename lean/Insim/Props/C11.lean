import Insim.Lemmas.Layout
import Insim.Gen.Packets
import Insim.Props.C06
/-
C11 — text fields always occupy their exact wire width and terminate correctly.
`writeStr` is `binrw_write_codepage_string::<N>` on the already-encoded bytes; `stripNul` is what every
text reader applies (`strip_trailing_nul`, which — despite its name — cuts at the *first* NUL).
-/
namespace Insim.Props.C11
open Insim Insim.Layout

/-- **fixed width**: a fixed-width text field is exactly N bytes: the encoded text truncated to N … -/
theorem fixed_length (n : Nat) (e : Bytes) : (writeStr n 0 e).length = n := writeStr_length (Nat.zero_le 1) e

/-- … followed by NUL bytes only -/
theorem fixed_content (n : Nat) (e : Bytes) :
    writeStr n 0 e = e.take n ++ List.replicate (n - (e.take n).length) 0 := by
  simp [writeStr]

theorem fixed_prefix (n : Nat) (e : Bytes) : (writeStr n 0 e).take (min n e.length) = e.take n := by
  rw [fixed_content]
  have : (e.take n).length = min n e.length := by simp
  rw [← this, List.take_left']
  rfl

/-- **variable width**: a variable-width message field is NUL-padded to a multiple of 4 and never
exceeds its maximum -/
theorem aligned (n : Nat) (e : Bytes) (hn : n % 4 = 0) :
    (writeStr n 4 e).length % 4 = 0 ∧ (writeStr n 4 e).length ≤ n := by
  refine ⟨writeStr_length_mod4 n e hn, ?_⟩
  simp only [writeStr, show (4 : Nat) > 1 by decide, if_true, List.length_take]
  exact Nat.min_le_left _ _

/-- the padding of a variable-width field consists of NUL bytes and the text comes first -/
theorem aligned_content (n : Nat) (e : Bytes) :
    writeStr n 4 e = (e ++ List.replicate ((e.length + 3) / 4 * 4 - e.length) 0).take n := by
  simp [writeStr]

/-- every variable text of the regenerated layouts has a maximum that is a multiple of 4, and every
fixed text is written without alignment -/
theorem layouts_text_ok :
    Gen.Packets.all.all (fun L =>
      L.fields.all (fun f => match f.ty with | .str rn wn _ _ a => rn == wn && decide (a ≤ 1) | _ => true) &&
      (match L.tail with | .strEof wn _ _ a => a == 4 && wn % 4 == 0 | _ => true)) = true := by decide +kernel

/-- **decoding stops at the first NUL**: whatever follows it is ignored -/
theorem read_stops_at_nul (a b : Bytes) (ha : (0 : Nat) ∉ a) : stripNul (a ++ 0 :: b) = a :=
  stripNul_append ha (by simp)

theorem read_no_nul (a : Bytes) (ha : (0 : Nat) ∉ a) : stripNul a = a := stripNul_eq_self ha

/-- the reader never returns a NUL -/
theorem read_has_no_nul (bs : Bytes) : (0 : Nat) ∉ stripNul bs := stripNul_no_nul bs

/-- write-then-read of a fixed field returns the text cut to the width (NUL-free text) -/
theorem read_write_fixed (n : Nat) (e : Bytes) (he : (0 : Nat) ∉ e) : stripNul (writeStr n 0 e) = e.take n :=
  stripNul_writeStr n 0 he

/-- **terminated — partial**: the field ends in a NUL byte whenever the encoded text is shorter
than the field (fixed) -/
theorem terminated_partial (n : Nat) (e : Bytes) (h : e.length < n) : (writeStr n 0 e).getLast? = some 0 := by
  rw [fixed_content]
  have ht : e.take n = e := List.take_of_length_le (by omega)
  rw [ht]
  have hk : n - e.length = (n - e.length - 1) + 1 := by omega
  rw [hk, List.replicate_succ']
  simp

/-- the full statement ("MST, MSX, MSL, MTC always end in a NUL byte") is false on the current code:
a text that fills the field leaves no room for the terminator (kernel-checked witnesses; recorded as
a known finding) -/
theorem terminated_fails_fixed : (writeStr 4 0 [97, 98, 99, 100]).getLast? = some 100 := by decide
theorem terminated_fails_aligned : (writeStr 128 4 [97, 98, 99, 100]).getLast? = some 100 := by decide

/-! non-vacuity -/
example : writeStr 8 0 [72, 105] = [72, 105, 0, 0, 0, 0, 0, 0] := by decide
example : writeStr 64 4 [72, 105, 33] = [72, 105, 33, 0] := by decide
example : stripNul [72, 0, 105, 0] = [72] := by decide

/-- **the sink does not matter**: a packet is serialised field by field, each field handed to the sink with `write_all`
(`Conn.writeAll`: keep offering the rest until it is gone). On any sink — however few bytes it takes per call, however often it is
not ready — when every write succeeds the sink holds exactly the in-memory image; the harness's `c11.sink` cases run
the real writers against such sinks -/
theorem sink_independent (fields : List Bytes) (img : Bytes) (hf : fields.flatten = img) (ws : List Conn.WEv) (out : Bytes)
    (h : Conn.writeMany fields ws = (out, true)) : out = img :=
  hf ▸ Props.C06.write_many_ok fields ws out h

/-- … and whatever happens it holds a prefix of the image, never bytes out of place -/
theorem sink_prefix (fields : List Bytes) (img : Bytes) (hf : fields.flatten = img) (ws : List Conn.WEv) :
    (Conn.writeMany fields ws).1 <+: img :=
  hf ▸ Props.C06.write_many_prefix fields ws

end Insim.Props.C11
