import Insim.Lemmas.Files
import Insim.Model.FilesEnv
import Insim.Props.C06
/-
C17 — PTH and SMX files round-trip and their parsers withstand any input.

The container model (`Insim.Model.Files`: magic, header with `calc`ed i32 counts, counted vectors, a
negative count is an error) is instantiated with the leaf layouts regenerated on every run from
insim_pth/src/lib.rs and insim_smx/src/lib.rs (`genLeafs`). Every theorem quantifies over *all* byte
strings / all in-domain files — any number of nodes, objects, points, triangles and checkpoints.
The generic proofs are in `Insim.Lemmas.Files`; here they are instantiated after checking, by kernel
evaluation, that the regenerated layouts satisfy the side conditions (`PthOk`, `SmxOk`, …).

Not carried by the model: the allocator. "Never allocates beyond what the input can justify" is
stated here as: the number of decoded elements never exceeds the number of input bytes
(`*_size_justified`); how binrw reserves memory while reading is measured by the harness
(counting allocator) and is outside the theorems.
-/
namespace Insim.Props.C17
open Insim Insim.Layout Insim.Files

/-! ### the regenerated layouts satisfy the side conditions -/

theorem pth_ok : PthOk genLeafs := by decide +kernel
theorem smx_ok : SmxOk genLeafs := by decide +kernel
/-- PTH has no padding and no text: every byte string that parses is canonical -/
theorem pth_canon_free : PthCanonFree genLeafs := by decide +kernel

/-! ### parsing any byte string returns a value or an error (the model has an explicit panic outcome) -/

theorem pth_total (bs : Bytes) : decPth genLeafs bs ≠ .panic := decPth_noPanic _ bs
theorem smx_total (bs : Bytes) : decSmx genLeafs bs ≠ .panic := decSmx_noPanic _ bs

/-! ### a file cut short anywhere inside its declared content is rejected -/

/-- for every file `c` (possibly followed by trailing bytes `t`) that parses consuming exactly `c`,
every strict prefix of `c` is rejected -/
theorem pth_prefix_rejected (c t : Bytes) (p : Pth) (hd : decPth genLeafs (c ++ t) = .ok (p, t)) (k : Nat)
    (hk : k < c.length) : ∃ e, decPth genLeafs (c.take k) = .err e :=
  (decPth_stable pth_ok).prefix_rejected (decPth_noPanic _) hd hk

theorem smx_prefix_rejected (c t : Bytes) (s : Smx) (hd : decSmx genLeafs (c ++ t) = .ok (s, t)) (k : Nat)
    (hk : k < c.length) : ∃ e, decSmx genLeafs (c.take k) = .err e :=
  (decSmx_stable smx_ok).prefix_rejected (decSmx_noPanic _) hd hk

/-- parsing is insensitive to what follows the declared content -/
theorem pth_extension (x y : Bytes) (p : Pth) (r : Bytes) (h : decPth genLeafs x = .ok (p, r)) :
    decPth genLeafs (x ++ y) = .ok (p, r ++ y) := decPth_stable pth_ok h y
theorem smx_extension (x y : Bytes) (s : Smx) (r : Bytes) (h : decSmx genLeafs x = .ok (s, r)) :
    decSmx genLeafs (x ++ y) = .ok (s, r ++ y) := decSmx_stable smx_ok h y

/-! ### hostile counts -/

/-- a negative node count (top bit set) is an error whatever follows -/
theorem pth_negative_count (x b1 b2 : Bytes) (hv : List Val) (n : Nat)
    (h1 : dropMagic genLeafs.pthMagic x = some b1) (h2 : decFields noEnv genLeafs.pthHeader b1 = .ok (hv, b2))
    (h3 : countsOf genLeafs.pthHeader hv = [n]) (h4 : 2 ^ 31 ≤ n) : decPth genLeafs x = .err .decode :=
  Files.pth_negative_count _ x b1 b2 hv n h1 h2 h3 h4

theorem smx_negative_object_count (x b1 b2 : Bytes) (hv : List Val) (n : Nat)
    (h1 : dropMagic genLeafs.smxMagic x = some b1) (h2 : decFields noEnv genLeafs.smxHeader b1 = .ok (hv, b2))
    (h3 : countsOf genLeafs.smxHeader hv = [n]) (h4 : 2 ^ 31 ≤ n) : decSmx genLeafs x = .err .decode :=
  Files.smx_negative_object_count _ x b1 b2 hv n h1 h2 h3 h4

theorem smx_negative_point_or_triangle_count (x b1 : Bytes) (hv : List Val) (np nt : Nat)
    (h2 : decFields noEnv genLeafs.objHeader x = .ok (hv, b1)) (h3 : countsOf genLeafs.objHeader hv = [np, nt])
    (h4 : 2 ^ 31 ≤ np ∨ 2 ^ 31 ≤ nt) : decObj genLeafs x = .err .decode :=
  Files.obj_negative_count _ x b1 hv np nt h2 h3 h4

/-- a huge count is only accepted when the input really has that many elements: the decoded
collections never have more elements than the input has bytes -/
theorem pth_size_justified (x : Bytes) (p : Pth) (r : Bytes) (h : decPth genLeafs x = .ok (p, r)) :
    p.nodes.length + r.length ≤ x.length := Files.pth_size_justified pth_ok h

theorem smx_size_justified (x : Bytes) (s : Smx) (r : Bytes) (h : decSmx genLeafs x = .ok (s, r)) :
    objsWeight s.objects + 4 * s.checkpoints.length + r.length ≤ x.length :=
  Files.smx_size_justified smx_ok h

/-! ### round trips -/

/-- write → parse: every in-domain PTH value (any number of nodes below 2^31) -/
theorem pth_write_parse (p : Pth) (hr : RepPth genLeafs p) (b r : Bytes) (he : encPth genLeafs p = .ok b) :
    decPth genLeafs (b ++ r) = .ok (p, r) := by
  obtain ⟨b', e, d⟩ := pth_codec pth_ok p hr
  cases he.symm.trans e
  exact d r

theorem smx_write_parse (s : Smx) (hr : RepSmx genLeafs s) (b r : Bytes) (he : encSmx genLeafs s = .ok b) :
    decSmx genLeafs (b ++ r) = .ok (s, r) := by
  obtain ⟨b', e, d⟩ := smx_codec smx_ok s hr
  cases he.symm.trans e
  exact d r

/-- parse → write → parse: whatever a byte string parses to can be written, and parsing what was
written gives the equal structure and consumes everything -/
theorem pth_parse_write_parse (x : Bytes) (hx : IsBytes x) (p : Pth) (r : Bytes) (h : decPth genLeafs x = .ok (p, r)) :
    ∃ b, encPth genLeafs p = .ok b ∧ decPth genLeafs b = .ok (p, []) :=
  have ⟨b, e, d⟩ := pth_codec pth_ok p (pth_read pth_ok hx h).1
  ⟨b, e, by simpa using d []⟩

theorem smx_parse_write_parse (x : Bytes) (hx : IsBytes x) (s : Smx) (r : Bytes) (h : decSmx genLeafs x = .ok (s, r)) :
    ∃ b, encSmx genLeafs s = .ok b ∧ decSmx genLeafs b = .ok (s, []) :=
  have ⟨b, e, d⟩ := smx_codec smx_ok s (smx_read smx_ok hx h).1
  ⟨b, e, by simpa using d []⟩

/-! ### canonical files are reproduced byte for byte -/

/-- every PTH file is canonical: the written bytes are the bytes read (up to unread trailing bytes) -/
theorem pth_canonical (x : Bytes) (hx : IsBytes x) (p : Pth) (r : Bytes) (h : decPth genLeafs x = .ok (p, r)) :
    ∃ b, encPth genLeafs p = .ok b ∧ x = b ++ r := (pth_read pth_ok hx h).2 pth_canon_free

/-- an SMX file all of whose skipped pad bytes (file header, after each triangle) are zero and whose
track name is cleanly NUL-padded is reproduced byte for byte -/
theorem smx_canonical (x : Bytes) (hx : IsBytes x) (hcan : SmxCanonical genLeafs x) (s : Smx) (r : Bytes)
    (h : decSmx genLeafs x = .ok (s, r)) : ∃ b, encSmx genLeafs s = .ok b ∧ x = b ++ r :=
  (smx_read smx_ok hx h).2 hcan

/-! ### non-vacuity: concrete files meet the hypotheses -/

/-- the empty PTH file (no nodes) -/
def pth0 : Pth := { header := [.n 0, .n 0, .n 0, .n 0], nodes := [] }
example : ∃ b, encPth genLeafs pth0 = .ok b ∧ decPth genLeafs b = .ok (pth0, []) ∧ b.length = 16 := by
  refine ⟨[76, 70, 83, 80, 84, 72, 0, 0, 0, 0, 0, 0, 0, 0, 0, 0], ?_, ?_, rfl⟩ <;> decide +kernel

/-- a one-node PTH file with a NaN bit pattern in a float field round-trips, and cutting its last byte is rejected -/
def pth1 : Pth := { header := [.n 0, .n 0, .n 1, .n 0], nodes := [[.n 1, .n 2, .n 3, .n 0x7fc00001, .n 0, .n 0, .n 0, .n 0, .n 0, .n 0]] }
example : (match encPth genLeafs pth1 with
    | .ok b => decPth genLeafs b == .ok (pth1, []) && (match decPth genLeafs (b.take (b.length - 1)) with | .err _ => true | _ => false)
    | _ => false) = true := by decide +kernel

/-- a negative count in an otherwise well-formed PTH header -/
example : decPth genLeafs [76, 70, 83, 80, 84, 72, 0, 0, 255, 255, 255, 255, 0, 0, 0, 0] = .err .decode := by decide +kernel

/-- an SMX file with one object (one point, one triangle) and two checkpoints: it round-trips, and *every*
strict prefix of the written bytes is rejected (here checked by evaluation; `smx_prefix_rejected` is the general fact) -/
def smx1 : Smx :=
  { header := [.n 0, .n 6, .n 0, .n 3, .n 1, .n 1, .b [66, 76], .n 1, .n 2, .n 3, .n 1],
    objects := [{ header := [.n 1, .n 2, .n 3, .n 4, .n 1, .n 1],
                  points := [[.n 1, .n 2, .n 0xFFFFFFFF, .n 255, .n 1, .n 2, .n 3]],
                  triangles := [[.n 0, .n 0, .n 0]] }],
    checkpoints := [0, 0xFFFFFFFF] }
example : (match encSmx genLeafs smx1 with
    | .ok b => decSmx genLeafs b == .ok (smx1, []) &&
        (List.range b.length).all (fun k => match decSmx genLeafs (b.take k) with | .err _ => true | _ => false)
    | _ => false) = true := by decide +kernel

/-- **the sink does not matter**: a file is serialised field by field, each field handed to the sink with `write_all`
(`Conn.writeAll`: keep offering the rest until it is gone). On any sink — however few bytes it takes per call, however often it is
not ready — when every write succeeds the sink holds exactly the in-memory image; the harness's `smx.wdrib / pth.wdrib` cases run
the real writers against such sinks -/
theorem sink_independent (fields : List Bytes) (img : Bytes) (hf : fields.flatten = img) (ws : List Conn.WEv) (out : Bytes)
    (h : Conn.writeMany fields ws = (out, true)) : out = img :=
  hf ▸ Props.C06.write_many_ok fields ws out h

/-- … and whatever happens it holds a prefix of the image, never bytes out of place -/
theorem sink_prefix (fields : List Bytes) (img : Bytes) (hf : fields.flatten = img) (ws : List Conn.WEv) :
    (Conn.writeMany fields ws).1 <+: img :=
  hf ▸ Props.C06.write_many_prefix fields ws

end Insim.Props.C17
