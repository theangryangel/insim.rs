import Insim.Lemmas.Conn
/-
C05 — stream reassembly is independent of segmentation and session length.
-/
namespace Insim.Props.C05
open Insim Insim.Frame Insim.Conn

/-- **reassembly** (refinement to "one result per frame"): for every list of valid frames, every
script whose data events concatenate to the frames' bytes — *any* partition into reads, any number
of `pending`, transient I/O errors and timeouts anywhere — ending in end-of-stream, and every buffer
content carried over from earlier reads:
* leaving the transient faults aside, the successive `read` results are exactly each frame's own
  result, in order, followed by `disconnected`;
* every transient fault surfaces as exactly one error result (and, by the first clause, loses nothing). -/
theorem reassembly (cfg : Cfg) (frames : List Bytes)
    (hv : ∀ f ∈ frames, ValidFrame cfg.mode f) (hp : ∀ f ∈ frames, cfg.parse (f.tail) ≠ .panic)
    (buf : Bytes) (evs : List Ev)
    (hinv : buf ++ dataOf evs = frames.flatten) (heof : EndsEof evs) :
    (run cfg buf evs).filter (fun i => !i.isFault) = frames.flatMap (frameItems cfg) ++ [.err .disconnected]
    ∧ ((run cfg buf evs).filter Item.isFault).length = faultsOf evs := by
  have h1 := run_filter cfg buf evs heof
  rw [hinv, ← List.append_nil frames.flatten, run_frames cfg frames hv hp, run_eof [] rfl] at h1
  exact ⟨h1, run_faults cfg buf evs (List.mem_filter.mp (h1 ▸ List.mem_append_right _ (List.mem_singleton_self _))).1⟩

/-- **fresh session**: the statement for a new connection (empty buffer) -/
theorem reassembly_fresh (cfg : Cfg) (frames : List Bytes)
    (hv : ∀ f ∈ frames, ValidFrame cfg.mode f) (hp : ∀ f ∈ frames, cfg.parse (f.tail) ≠ .panic)
    (evs : List Ev) (hd : dataOf evs = frames.flatten) (heof : EndsEof evs) :
    (run cfg [] evs).filter (fun i => !i.isFault) = frames.flatMap (frameItems cfg) ++ [.err .disconnected] :=
  (reassembly cfg frames hv hp [] evs (by simpa using hd) heof).1

/-- **segmentation independence**: two scripts delivering the same bytes give the same results,
whatever their partitions and whatever transient faults they contain -/
theorem segmentation_independent (cfg : Cfg) (frames : List Bytes)
    (hv : ∀ f ∈ frames, ValidFrame cfg.mode f) (hp : ∀ f ∈ frames, cfg.parse (f.tail) ≠ .panic)
    (evs evs' : List Ev) (hd : dataOf evs = frames.flatten) (hd' : dataOf evs' = frames.flatten)
    (he : EndsEof evs) (he' : EndsEof evs') :
    (run cfg [] evs).filter (fun i => !i.isFault) = (run cfg [] evs').filter (fun i => !i.isFault) := by
  rw [reassembly_fresh cfg frames hv hp evs hd he, reassembly_fresh cfg frames hv hp evs' hd' he']

/-- an undecodable frame is reported once and its successors are undisturbed (instance of `reassembly`) -/
theorem bad_frame_local (cfg : Cfg) (f g : Bytes) (hf : ValidFrame cfg.mode f) (hg : ValidFrame cfg.mode g)
    (e : ErrClass) (hbad : cfg.parse (f.tail) = .err e) (c : Cls) (hok : cfg.parse (g.tail) = .ok c)
    (hk : isKeepAlive c = false) (hver : cfg.verify = false)
    (evs : List Ev) (hd : dataOf evs = f ++ g) (he : EndsEof evs) :
    (run cfg [] evs).filter (fun i => !i.isFault) = [.err .decode, .pkt g c, .err .disconnected] := by
  have hv : ∀ x ∈ [f, g], ValidFrame cfg.mode x := by simp [hf, hg]
  have hp : ∀ x ∈ [f, g], cfg.parse (x.tail) ≠ .panic := by simp [hbad, hok]
  rw [reassembly_fresh cfg [f, g] hv hp evs (by rw [hd]; simp) he]
  simp only [List.flatMap_cons, frameItems, hbad, hok, hk, hver]
  rfl

/-! non-vacuity: a concrete script (two frames, split mid-frame, a fault and a pending in between) -/
def demoCfg : Cfg := { mode := ⟨true⟩, verify := false, parse := fun b => match b with
  | [3, r, s] => .ok (.tiny r s) | _ => .err .decode }
example : ValidFrame ⟨true⟩ [1, 3, 0, 0] := ⟨1, [3, 0, 0], rfl, rfl, by decide, by decide⟩
def demoScript : List Ev := [.data [1, 3], .ioErr, .data [0, 0, 1], .pending, .data [3, 7, 5], .eof]
theorem demoValid : ∀ f ∈ [[1, 3, 0, 0], [1, 3, 7, 5]], ValidFrame demoCfg.mode f :=
  List.forall_mem_cons.mpr ⟨⟨1, [3, 0, 0], rfl, rfl, by decide, by decide⟩,
    List.forall_mem_cons.mpr ⟨⟨1, [3, 7, 5], rfl, rfl, by decide, by decide⟩, nofun⟩⟩
/-- the hypotheses of `reassembly_fresh` are met by a concrete script, and its conclusion is the expected trace -/
example : (run demoCfg [] demoScript).filter (fun i => !i.isFault) =
    [.wrote [1, 3, 0, 0], .pkt [1, 3, 0, 0] (.tiny 0 0), .pkt [1, 3, 7, 5] (.tiny 7 5), .err .disconnected] := by
  rw [reassembly_fresh demoCfg [[1, 3, 0, 0], [1, 3, 7, 5]] demoValid (by decide) demoScript (by decide)
    (by simp [demoScript, EndsEof])]
  decide

end Insim.Props.C05
