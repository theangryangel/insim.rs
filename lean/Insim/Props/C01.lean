import Insim.Lemmas.Customs
import Insim.Lemmas.Frame
import Insim.Lemmas.Text
/-
C01 — lossless packet round trip.
The layouts are regenerated from the packet declarations on every run; `all_wf` re-checks, by
`decide`, that every one of them is well formed (reader and writer attributes agree field by field,
vector kinds carry a `calc`ed count, variable texts are 4-aligned); the round-trip theorems
are proved once for every well-formed layout and every in-domain value.

Proved scope (stated honestly): every kind whose body is declared (`RepBody`): fixed-size kinds, kinds
with a counted vector of flat elements, the two set-valued kinds (MAL, IPB: in-domain sets are
duplicate-free, as the crate's `IndexSet` keeps them) and the until-end-of-frame texts (III MTC BTN
ACR: NUL-free text within the maximum), through the real framing in both size modes. The hand-written
MSO body is covered by its own lemma (`decMso_encMso`). The 8-byte `GameVersion` text in VER is covered at
the level of its text (`GvRep`: canonical major text, upper-case minor letter, printed text within 8
bytes — `gv_roundtrip` in Lemmas/Customs.lean); that the standard library's `f32` parsing and shortest
printing agree with that text-level view is an assumption recorded in C16 (`Laws`) and exercised by the
correspondence run, not proved.
-/
namespace Insim.Props.C01
open Insim Insim.Layout Insim.Frame

/-- every regenerated layout is well formed -/
theorem all_wf : Gen.Packets.all.all Layout.wf = true := by decide +kernel

/-- 73 kinds, pairwise distinct type numbers -/
theorem kinds_complete :
    (Nat.beq Gen.Packets.all.length 73 &&
     Gen.Packets.all.all (fun L => Nat.beq ((Gen.Packets.all.filter (fun M => M.typeNo == L.typeNo)).length) 1)) = true := by
  decide +kernel

/-- the type byte selects the layout it was written from: it is the only one with that number -/
theorem find_self {L : Layout} (hL : L ∈ Gen.Packets.all) :
    Gen.Packets.all.find? (fun M => M.typeNo == L.typeNo) = some L := by
  have h := kinds_complete
  simp only [Bool.and_eq_true, List.all_eq_true] at h
  exact find?_of_unique hL (by simp) (Nat.eq_of_beq_eq_true (h.2 L hL))

/-- **packet round trip** (`Packet::write` then `Packet::read`): any in-domain packet of a covered
kind decodes back to itself -/
theorem packet_roundtrip_any (L : Layout) (hL : L ∈ Gen.Packets.all) (v : PVal) (bs : Bytes)
    (hr : RepAnyBody CRep L v) (he : writePacket genEnv L v = .ok bs) :
    parsePacket genEnv Gen.Packets.all bs = .ok (L, v) :=
  parsePacket_writePacket customs_lawful (find_self hL) (List.all_eq_true.mp all_wf L hL) hr he

/-- **lossless round trip through the real framing, both size modes**: encoding an in-domain
packet and decoding the result yields the same packet and consumes the frame completely -/
theorem frame_roundtrip_any (m : Mode) (L : Layout) (hL : L ∈ Gen.Packets.all) (v : PVal) (f : Bytes)
    (hr : RepAnyBody CRep L v) (he : Frame.encode m (writePacket genEnv L v) = .ok f) :
    Frame.decode m (parsePacket genEnv Gen.Packets.all) f = (.ok (some (L, v)), []) := by
  obtain ⟨body, _, hw, -⟩ := encode_ok he
  exact decode_encode _ (hw ▸ he) (packet_roundtrip_any L hL v body hr hw)

/-- **re-encode**: decoding a frame the encoder produced from an in-domain packet and encoding it again
gives the identical bytes -/
theorem reencode_any (m : Mode) (L : Layout) (hL : L ∈ Gen.Packets.all) (v : PVal) (f : Bytes)
    (hr : RepAnyBody CRep L v) (he : Frame.encode m (writePacket genEnv L v) = .ok f)
    (L' : Layout) (v' : PVal) (rest : Bytes)
    (hd : Frame.decode m (parsePacket genEnv Gen.Packets.all) f = (.ok (some (L', v')), rest)) :
    Frame.encode m (writePacket genEnv L' v') = .ok f := by
  rw [frame_roundtrip_any m L hL v f hr he] at hd
  simp only [Prod.mk.injEq] at hd
  obtain ⟨⟨rfl, rfl⟩, _⟩ := hd
  exact he

/-! the three theorems for kinds with a declared body (everything but IS_MSO) -/

theorem packet_roundtrip (L : Layout) (hL : L ∈ Gen.Packets.all) (hb : L.customBody = false) (v : PVal) (bs : Bytes)
    (hr : RepBody CRep L v) (he : writePacket genEnv L v = .ok bs) :
    parsePacket genEnv Gen.Packets.all bs = .ok (L, v) := packet_roundtrip_any L hL v bs (.inl ⟨hb, hr⟩) he

theorem frame_roundtrip (m : Mode) (L : Layout) (hL : L ∈ Gen.Packets.all) (hb : L.customBody = false) (v : PVal) (f : Bytes)
    (hr : RepBody CRep L v) (he : Frame.encode m (writePacket genEnv L v) = .ok f) :
    Frame.decode m (parsePacket genEnv Gen.Packets.all) f = (.ok (some (L, v)), []) :=
  frame_roundtrip_any m L hL v f (.inl ⟨hb, hr⟩) he

theorem reencode (m : Mode) (L : Layout) (hL : L ∈ Gen.Packets.all) (hb : L.customBody = false) (v : PVal) (f : Bytes)
    (hr : RepBody CRep L v) (he : Frame.encode m (writePacket genEnv L v) = .ok f)
    (L' : Layout) (v' : PVal) (rest : Bytes)
    (hd : Frame.decode m (parsePacket genEnv Gen.Packets.all) f = (.ok (some (L', v')), rest)) :
    Frame.encode m (writePacket genEnv L' v') = .ok f := reencode_any m L hL v f (.inl ⟨hb, hr⟩) he L' v' rest hd

/-- … and for the hand-written IS_MSO body (name and message NUL-free, together at most 128 bytes) -/
theorem mso_frame_roundtrip (m : Mode) (v : PVal) (f : Bytes) (hr : RepMso v)
    (he : Frame.encode m (writePacket genEnv Gen.Packets.lMso v) = .ok f) :
    Frame.decode m (parsePacket genEnv Gen.Packets.all) f = (.ok (some (Gen.Packets.lMso, v)), []) :=
  frame_roundtrip_any m _ (by decide +kernel) v f (.inr ⟨by decide +kernel, hr⟩) he

/-! ### text fields as typed values

The theorems above treat a text field as its bytes. What the user holds is a `String`; between the two stands the codepage
layer, whose round trip is C10's subject (`C10.faithful_carets`, under the recorded laws of the ten codecs). Composed
with the field layer: a text of encodable characters, with no caret that would start a marker and no NUL, that fits its
field comes back as the same string — for fixed-width fields, for 4-aligned variable fields, and for IS_MSO, whose typed
`textstart` (a UTF-8 offset into `msg`) is translated to the wire's byte offset and back. -/

open Insim.Cp Insim.Text in
/-- **typed fixed-width text field** -/
theorem text_fixed_roundtrip (cp : Mk → CP) (order : List Mk) (ho : ∀ x : Mk, x ∈ order) (L : Props.C10.Laws cp)
    (LL : Props.C10.LeadLaw cp) (N : NulLaw cp) (n : Nat) (s : Str) (hs : TextOk cp s) (hfit : (toBytes cp order s).length ≤ n) :
    Cp.toString cp (stripNul (writeStr n 0 (toBytes cp order s))) = s :=
  fixed_field_roundtrip cp order ho L LL N n s hs hfit

open Insim.Cp Insim.Text in
/-- **typed variable-width text field** (III MTC BTN ACR, and the text of MSO) -/
theorem text_aligned_roundtrip (cp : Mk → CP) (order : List Mk) (ho : ∀ x : Mk, x ∈ order) (L : Props.C10.Laws cp)
    (LL : Props.C10.LeadLaw cp) (N : NulLaw cp) (n : Nat) (s : Str) (hs : TextOk cp s) (hfit : (toBytes cp order s).length ≤ n) :
    Cp.toString cp (stripNul (writeStr n 4 (toBytes cp order s))) = s :=
  aligned_field_roundtrip cp order ho L LL N n s hs hfit

open Insim.Cp Insim.Text in
/-- **IS_MSO as typed values**: message and text start survive `Mso::write` then `Mso::read` -/
theorem mso_typed (cp : Mk → CP) (order : List Mk) (ho : ∀ x : Mk, x ∈ order) (L : Props.C10.Laws cp)
    (LL : Props.C10.LeadLaw cp) (N : NulLaw cp) (name text : Str) (hn : TextOk cp name) (hs : TextOk cp (name ++ text))
    (hts : strLen name < 256) (hfit : (toBytes cp order (name ++ text)).length ≤ 128)
    (ts : Nat) (body : Bytes) (hw : msoWrite cp order (strLen name) (name ++ text) = some (ts, body)) :
    msoRead cp ts body = some (strLen name, name ++ text) :=
  mso_typed_roundtrip cp order ho L LL N name text hn hs hts hfit ts body hw

open Insim.Cp Insim.Text in
/-- the name's bytes are a prefix of the message's bytes: the wire's TextStart points at a character boundary of the
encoded text, whatever codepage the name ends in -/
theorem mso_name_is_prefix (cp : Mk → CP) (order : List Mk) (name text : Str) :
    (toBytes cp order (name ++ text)).take (toBytes cp order name).length = toBytes cp order name := by
  rw [toBytes_prefix]; exact List.take_left' rfl

/-! non-vacuity of the typed theorems: `Text.one` satisfies all six laws (`one_laws one_lead one_nul`) and the examples in
Lemmas/Text.lean run `msoWrite`/`msoRead` on a name with a non-ASCII character; of the byte-level ones: a concrete TINY and a
concrete MCI with one car are in the domain -/
example : Gen.Packets.lTiny ∈ Gen.Packets.all := by decide +kernel
example : RepBody CRep Gen.Packets.lTiny { vals := [.n 2, .n 3], tail := .none } := by
  refine ⟨?_, trivial, trivial⟩
  simp [Gen.Packets.lTiny, RepFields, RepAny, RepTy, arity, maxvOk, memN]
example : writePacket genEnv Gen.Packets.lTiny { vals := [.n 2, .n 3], tail := .none } = .ok [3, 2, 3] := by decide +kernel

/-- a MAL with two mods and an MTC with a five-character text are in the domain too -/
example : RepBody CRep Gen.Packets.lMal { vals := [.n 1, .n 2, .n 0], tail := .set [0x123456, 0xABCDEF] } := by
  refine ⟨?_, by simp [Gen.Packets.lMal, tailCount], ?_⟩
  · simp [Gen.Packets.lMal, RepFields, RepAny, RepTy, arity, maxvOk, tailCount]
  · refine ⟨by intro x hx; simp at hx; rcases hx with rfl | rfl <;> decide, by decide⟩
example : RepBody CRep Gen.Packets.lMtc { vals := [.n 1, .n 0, .n 2, .n 3], tail := .text [104, 101, 108, 108, 111] } := by
  refine ⟨?_, trivial, ?_⟩
  · simp [Gen.Packets.lMtc, RepFields, RepAny, RepTy, arity, maxvOk, memN]
  · exact ⟨by decide, by decide⟩

/-- … and a VER announcing version 0.7D3, product "S3", InSim 9 -/
example : RepBody CRep Gen.Packets.lVer { vals := [.n 1, .b [48, 46, 55], .n 68, .n 4, .b [83, 51], .n 9], tail := .none } := by
  refine ⟨?_, trivial, trivial⟩
  simp only [Gen.Packets.lVer, RepFields, RepAny, arity, List.drop, maxvOk]
  refine ⟨by simp [RepTy], trivial, ⟨_, _, _, rfl, ?_⟩, trivial, by simp [RepTy], trivial, by simp [RepTy], trivial, trivial⟩
  exact ⟨⟨by decide, by decide, by decide +kernel⟩, by omega, by omega, by decide +kernel⟩

end Insim.Props.C01
