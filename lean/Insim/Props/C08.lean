import Insim.Model.Udp
import Insim.Props.C05
/-
C08 — UDP datagrams are delivered intact for arbitrarily long sessions.
-/
namespace Insim.Props.C08
open Insim Insim.Conn Insim.Frame
open Insim.Udp (maxDatagram readUnbuffered)

/-- one read conserves the stream, and the datagrams still to arrive keep their bound -/
theorem read_conserved (buf : Bytes) (o : Nat) (ds : List Bytes) (hd : ∀ d ∈ ds, d.length ≤ maxDatagram)
    (chunk buf' : Bytes) (ds' : List Bytes) (h : Udp.read buf o ds = some (chunk, buf', ds')) :
    chunk ++ (buf' ++ ds'.flatten) = buf ++ ds.flatten ∧ (∀ d ∈ ds', d.length ≤ maxDatagram) := by
  cases buf with
  | cons b bs => cases h; exact ⟨by rw [← List.append_assoc, List.take_append_drop], hd⟩
  | nil =>
    cases ds with
    | nil => cases h
    | cons d ds0 =>
      cases h
      rw [List.take_of_length_le (hd d (by simp)), ← List.append_assoc, List.take_append_drop]
      exact ⟨rfl, fun x hx => hd x (by simp [hx])⟩

/-- every read makes progress: with a positive offer, a read that returns serves at least one byte
whenever a non-empty datagram or buffered data is available -/
theorem read_progress (buf : Bytes) (o : Nat) (ds : List Bytes) (ho : 1 ≤ o) (hne : ∀ d ∈ ds, d ≠ [])
    (chunk buf' : Bytes) (ds' : List Bytes) (h : Udp.read buf o ds = some (chunk, buf', ds')) : chunk ≠ [] := by
  have ho' : o ≠ 0 := by omega
  cases buf with
  | cons b bs => cases h; simp [ho']
  | nil =>
    cases ds with
    | nil => cases h
    | cons d ds0 => cases h; simp [ho', maxDatagram, hne d]

theorem readExact_conserved (fuel : Nat) (buf : Bytes) (n : Nat) (ds : List Bytes) (acc : Bytes)
    (hd : ∀ d ∈ ds, d.length ≤ maxDatagram) (out buf' : Bytes) (ds' : List Bytes)
    (h : Udp.readExact fuel buf n ds acc = some (out, buf', ds')) :
    out ++ (buf' ++ ds'.flatten) = acc ++ (buf ++ ds.flatten) ∧ (∀ d ∈ ds', d.length ≤ maxDatagram) := by
  -- the buffer is full (1); out of fuel, nothing to read, an empty chunk: the call fails (2–4); a chunk is appended (5)
  fun_induction Udp.readExact fuel buf n ds acc with
  | case1 => cases h; exact ⟨rfl, hd⟩
  | case2 | case3 | case4 => cases h
  | case5 fuel buf n ds acc chunk b1 d1 hr hne ih =>
    obtain ⟨hc, hd1⟩ := read_conserved buf (n + 1) ds hd chunk b1 d1 hr
    obtain ⟨h2, hd2⟩ := ih hd1 h
    exact ⟨by rw [h2, List.append_assoc, hc], hd2⟩

/-- **writes, flushes and failed receive attempts never disturb the receive side**: for any interleaving of reads
(any offered sizes), flushes, writes and reads that find nothing to receive, the chunks served, followed by what the adaptor still holds and the datagrams still to
arrive, are exactly the buffered bytes and the datagrams in order (the send side is `ops_sent_prefix`) -/
theorem ops_conserved (s : Udp.ASt) (ops : List Udp.AOp) (hd : ∀ d ∈ s.ds, d.length ≤ maxDatagram) :
    (Udp.runOps s ops).1.flatten ++ (Udp.runOps s ops).2.buf ++ (Udp.runOps s ops).2.ds.flatten = s.buf ++ s.ds.flatten := by
  rw [List.append_assoc]
  induction ops generalizing s with
  | nil => rfl
  | cons op ops ih =>
    cases op with
    | fl | idle => exact ih s hd
    | wr f => exact ih { s with sent := Udp.write f s.sent } hd
    | rd o =>
      simp only [Udp.runOps]
      split
      · rfl
      · rename_i chunk b' d' hr
        obtain ⟨hc, hd'⟩ := read_conserved s.buf o s.ds hd chunk b' d' hr
        exact served_cons hc (ih _ hd')
    | rx n =>
      simp only [Udp.runOps]
      split
      · rfl
      · rename_i chunk b' d' hr
        obtain ⟨hc, hd'⟩ := readExact_conserved _ s.buf n s.ds [] hd chunk b' d' hr
        exact served_cons hc (ih _ hd')

/-- the frames written in an op sequence, in order -/
def written : List Udp.AOp → List Bytes
  | [] => []
  | .wr f :: ops => f :: written ops
  | _ :: ops => written ops

/-- the sent datagrams are a prefix-extension of the written frames: reads and flushes add nothing, every write adds
exactly its frame -/
theorem ops_sent_prefix (s : Udp.ASt) (ops : List Udp.AOp) :
    ∃ k, (Udp.runOps s ops).2.sent = s.sent ++ (written ops).take k := by
  induction ops generalizing s with
  | nil => exact ⟨0, by simp [Udp.runOps]⟩
  | cons op ops ih =>
    cases op with
    | fl | idle => exact ih s
    | wr f =>
      obtain ⟨k, hk⟩ := ih { s with sent := Udp.write f s.sent }
      exact ⟨k + 1, by simp only [Udp.runOps, written]; rw [hk]; simp [Udp.write]⟩
    | rd _ | rx _ =>
      simp only [Udp.runOps]
      split
      · exact ⟨0, by simp⟩
      · exact ih _

/-- with reads only, the op-level run is the plain run -/
theorem runOps_rd (s : Udp.ASt) (offers : List Nat) :
    Udp.runOps s (offers.map .rd) =
      ((Udp.run s.buf offers s.ds).1, { s with buf := (Udp.run s.buf offers s.ds).2.1, ds := (Udp.run s.buf offers s.ds).2.2 }) := by
  induction offers generalizing s with
  | nil => rfl
  | cons o os ih =>
    simp only [List.map_cons, Udp.runOps, Udp.run]
    split
    · rfl
    · rw [ih]

theorem runOps_reads (buf : Bytes) (ds sent : List Bytes) (offers : List Nat) :
    (Udp.runOps { buf := buf, ds := ds, sent := sent } (offers.map .rd)).1 = (Udp.run buf offers ds).1 := by
  rw [runOps_rd]

/-- **nothing is dropped, duplicated or reordered**: whatever slice sizes the connection offers
(any sequence of sizes, however small), the chunks served so far, followed by what the adaptor still
buffers and the datagrams still to arrive, are exactly the buffered bytes and the datagrams in order -/
theorem stream_conserved (buf : Bytes) (offers : List Nat) (ds : List Bytes) (hd : ∀ d ∈ ds, d.length ≤ maxDatagram) :
    (Udp.run buf offers ds).1.flatten ++ (Udp.run buf offers ds).2.1 ++ (Udp.run buf offers ds).2.2.flatten = buf ++ ds.flatten := by
  have := ops_conserved ⟨buf, ds, []⟩ (offers.map .rd) hd
  rwa [runOps_rd] at this

/-- the chunks the adaptor serves, as the read events of the connection -/
def events (chunks : List Bytes) : List Ev := chunks.map Ev.data ++ [.eof]

/-- **packets**: every packet of every datagram is delivered intact and in order — any number of
packets per datagram, any datagram sizes up to the maximum, any cumulative traffic, any offered
slice sizes: once all datagrams have been served, the connection's results are exactly one per frame -/
theorem packets (cfg : Cfg) (frames : List Bytes) (ds : List Bytes) (offers : List Nat)
    (hv : ∀ f ∈ frames, ValidFrame cfg.mode f) (hp : ∀ f ∈ frames, cfg.parse f.tail ≠ .panic)
    (hd : ∀ d ∈ ds, d.length ≤ maxDatagram) (hsplit : ds.flatten = frames.flatten)
    (hall : (Udp.run [] offers ds).2.1 = [] ∧ (Udp.run [] offers ds).2.2 = []) :
    (Conn.run cfg [] (events (Udp.run [] offers ds).1)).filter (fun i => !i.isFault) =
      frames.flatMap (frameItems cfg) ++ [.err .disconnected] := by
  apply C05.reassembly_fresh cfg frames hv hp
  · rw [events, dataOf_data, dataOf, List.append_nil]
    have := stream_conserved [] offers ds hd
    rw [hall.1, hall.2] at this
    simpa [hsplit] using this
  · exact (endsEof_data _ _).mpr trivial

/-- **one datagram per write, holding exactly its frame** -/
theorem write_one_datagram (frames : List Bytes) (sent : List Bytes) :
    frames.foldl (fun s f => Udp.write f s) sent = sent ++ frames := by
  simp only [Udp.write, List.foldl_append_eq_append, ← List.flatMap_def, List.flatMap_singleton']

/-- negation witness for the pinned tree (tokio adaptor before the repair): a datagram larger than
the offered slice loses its tail -/
example : readUnbuffered 4 [[1, 2, 3, 4, 5, 6, 7, 8]] = some ([1, 2, 3, 4], []) := by decide
/-- … whereas the buffered adaptor serves the rest on the next read -/
example : (Udp.run [] [4, 4] [[1, 2, 3, 4, 5, 6, 7, 8]]).1 = [[1, 2, 3, 4], [5, 6, 7, 8]] := by decide
/-- … also when a flush and a write fall between the two reads -/
example : (Udp.runOps ⟨[], [[1, 2, 3, 4, 5, 6, 7, 8]], []⟩ [.rd 4, .fl, .wr [9], .rd 4]).1 = [[1, 2, 3, 4], [5, 6, 7, 8]] := by decide

end Insim.Props.C08
