import Insim.Lemmas.Escape
import Insim.Props.C10
/-
C12 — escaping makes arbitrary text wire-safe; colour stripping is exact.
All statements are over every string (lists of code points of any length).
-/
namespace Insim.Props.C12
open Insim Insim.Esc

theorem unescapeSlow_escaped {s o : Str} (h : Escaped s o) : unescapeSlow o = s := by
  induction h with
  | nil => rfl
  | colour hd _ ih => rw [unescapeSlow_colour _ hd, ih]
  | esc he _ ih => rw [unescapeSlow_pair _ (unesc_esc he), ih]
  | plain he _ ih => rw [unescapeSlow_plain _ (esc_none_ne_caret he), ih]

/-- **unescape ∘ escape = id**, for every string, fast paths included -/
theorem unescape_escape (s : Str) : unescape (escape s) = s := by
  rw [escape_eq_slow, unescape_eq_slow]; exact unescapeSlow_escaped (escaped s)

/-- what escaping leaves in a text: characters that needed no escape, and the right column of the table -/
theorem forall_escaped {P : Nat → Prop} {s o : Str} (h : Escaped s o) (hs : ∀ x ∈ s, esc? x = none → P x)
    (hi : ∀ p ∈ escPairs, P p.2) : ∀ x ∈ o, P x := by
  have h94 : P 94 := hi (94, 94) (by decide)
  induction h with
  | nil => simp
  | colour hd _ ih =>
    simp only [List.forall_mem_cons] at hs ⊢
    exact ⟨h94, hs.2.1 (colour_not_esc hd).1, ih hs.2.2⟩
  | esc he _ ih =>
    simp only [List.forall_mem_cons] at hs ⊢
    exact ⟨h94, hi _ (esc_mem he), ih hs.2⟩
  | plain he _ ih =>
    simp only [List.forall_mem_cons] at hs ⊢
    exact ⟨hs.1 he, ih hs.2⟩

/-- **escaped output contains none of LFS's reserved characters in raw form** -/
theorem no_reserved (s : Str) : ∀ x ∈ escape s, x ∉ reserved := by
  rw [escape_eq_slow]
  exact forall_escaped (escaped s) (fun _ _ => esc_none_not_reserved) (by decide)

theorem stripSlow_spec (s : Str) : stripSlow s = ((tokens s).filter (fun t => !t.isColourTok)).flatMap Tok.text := by
  fun_induction stripSlow s with
  | case1 => rfl
  | case2 i => simp [tokens, Tok.isColourTok, Tok.text]
  | case3 i j rest h ih =>
    obtain ⟨rfl, rfl⟩ := h
    simp [tokens, Tok.isColourTok, Tok.text, ih]
  | case4 i j rest h1 h2 ih =>
    obtain ⟨rfl, hj⟩ := h2
    simp [tokens, isColour_ne_caret hj, hj, Tok.isColourTok, ih]
  | case5 i j rest h1 h2 ih =>
    simp [tokens, h1, h2, Tok.isColourTok, Tok.text, ih]

/-- **strip removes exactly the colour codes**: it equals "tokenise into `^^`, `^digit`, plain
characters; drop the `^digit` tokens; concatenate" -/
theorem strip_spec (s : Str) : strip s = ((tokens s).filter (fun t => !t.isColourTok)).flatMap Tok.text := by
  rw [strip_eq_slow]; exact stripSlow_spec s

theorem stripSlow_no_caret (s : Str) (h : s.any (· == 94) = false) : stripSlow s = s :=
  id_of_no_caret rfl (fun _ xs => stripSlow_plain xs) s h

theorem stripSlow_idem (s : Str) : stripSlow (stripSlow s) = stripSlow s := by
  fun_induction stripSlow s with
  | case1 | case2 => rfl
  | case3 i j rest h ih =>
    obtain ⟨rfl, rfl⟩ := h
    simp [stripSlow, ih]
  | case4 i j rest h1 h2 ih => exact ih
  | case5 i j rest h1 h2 ih =>
    by_cases hi : i = 94
    · -- the caret is kept, and so is `j`, being neither a caret nor a digit: the pair is met again as it was
      subst hi
      have hj : j ≠ 94 := fun e => h1 ⟨rfl, e⟩
      have hj2 : isColour j = false := by simpa using h2
      rw [stripSlow_plain rest hj] at ih ⊢
      simpa [stripSlow, hj, hj2] using ih
    · rw [stripSlow_plain _ hi, ih]

/-- **strip is idempotent** -/
theorem strip_idem (s : Str) : strip (strip s) = strip s := by
  simp only [strip_eq_slow, stripSlow_idem]

/-- **escaped carets are left untouched**: `^^` is kept wherever it stands as a token -/
theorem strip_keeps_escaped_caret (rest : Str) : strip (94 :: 94 :: rest) = 94 :: 94 :: stripSlow rest := by
  simp [strip, stripSlow]

/-! non-vacuity / concrete instances -/
example : escape [94, 124, 49, 94, 57] = [94, 94, 94, 118, 49, 94, 57] := by decide
example : unescape (escape [94, 76, 35]) = [94, 76, 35] := by decide
example : strip [94, 94, 49, 50, 94, 53, 54] = [94, 94, 49, 50, 54] := by decide
example : strip [94, 49, 94, 94, 94, 50] = [94, 94] := by decide

/-! ### the wire clause: escaping composed with the codepage conversion (C10's model) -/

section wire
open Insim.Cp Insim.Props.C10

/-- escaping keeps every caret away from the codepage letters, provided the text did -/
theorem caretOk_escaped {s o : Esc.Str} (h : Escaped s o) (hc : CaretOk s) : CaretOk o := by
  induction h with
  | nil => trivial
  | colour hd _ ih =>
    exact ⟨hc.1, caretOk_cons.2 ⟨fun e => absurd e (isColour_ne_caret hd), ih (caretOk_cons.1 hc.2).2⟩⟩
  | esc he hr ih =>
    have hmk : ∀ p ∈ escPairs, mk? p.2 = none := by decide
    have hc := caretOk_cons.1 hc
    refine ⟨fun _ => hmk _ (esc_mem he), caretOk_cons.2 ⟨?_, ih hc.2⟩⟩
    -- only `^^` ends in a caret; what follows is a new token's caret or the unescaped character that followed in `s`
    rintro rfl x hx
    rcases hr.head x hx with rfl | hx'
    · decide
    · exact hc.1 (esc_caret_image he) x hx'
  | plain he _ ih =>
    have hc := caretOk_cons.1 hc
    exact caretOk_cons.2 ⟨fun e => absurd e (esc_none_ne_caret he), ih hc.2⟩

theorem caretOk_no_caret (s : Cp.Str) (h : s.any (· == 94) = false) : CaretOk s :=
  caretOk_of_ne s (by simpa using h)

theorem no_caret_of_nothing_to_escape (s : Esc.Str) (h : s.any (fun c => (esc? c).isSome) = false) : s.any (· == 94) = false := by
  simp only [List.any_eq_false, Option.not_isSome_iff_eq_none, beq_iff_eq] at h ⊢
  exact fun x hx => esc_none_ne_caret (h x hx)

/-- **the wire clause**: a text whose characters each exist in some LFS codepage, in which no caret stands in
front of a codepage letter or '8', survives escape → encode → decode → unescape unchanged — for every length,
every mix of codepages and reserved characters, over any codec family satisfying the five laws -/
theorem wire_roundtrip (cp : Mk → CP) (order : List Mk) (ho : ∀ x : Mk, x ∈ order) (L : Laws cp) (LL : LeadLaw cp)
    (s : Esc.Str) (hs : ∀ c ∈ s, isAscii c = true ∨ Encodable cp c) (hc : CaretOk s) :
    unescape (Cp.toString cp (toBytes cp order (escape s))) = s := by
  have hasc : ∀ p ∈ escPairs, isAscii p.2 = true := by decide
  have hchars := forall_escaped (escaped s) (fun c hc _ => hs c hc) (fun p hp => Or.inl (hasc p hp))
  rw [escape_eq_slow, faithful_carets cp order ho L LL _ hchars (caretOk_escaped (escaped s) hc), ← escape_eq_slow]
  exact unescape_escape s

/-- a concrete run through the toy codec family of C10: Greek alpha, a reserved bar, a literal caret, 'x', e-acute -/
example : unescape (Cp.toString toy (toBytes toy Mk.all (escape [945, 124, 94, 120, 233]))) = [945, 124, 94, 120, 233] := by decide

/-- … and the recorded counter-example: a literal caret in front of a codepage letter does not survive -/
example : unescape (Cp.toString toy (toBytes toy Mk.all (escape [94, 71, 225]))) ≠ [94, 71, 225] := by decide

end wire

end Insim.Props.C12
