import Insim.Model.Cancel
/-
C19 — cancelling a pending async read loses nothing.
Proved part (`cancel_safe_partial`): dropping the read future at any suspension point at which it
does not hold an already-decoded keep-alive (i.e. everywhere except while the keep-alive reply is
being written or flushed) changes neither the packets later reads return nor the outgoing bytes — for every
frame sequence, readiness script and drop schedule. The full statement is kept next to a negation
witness: on the current code a drop *during the reply write* loses the keep-alive and leaves a
partial frame on the outgoing side (recorded as a known finding).
-/
namespace Insim.Props.C19
open Insim Insim.Frame Insim.Conn Insim.Cancel

/-- in phase `idle` the phase a drop leaves behind is the phase it found -/
theorem drop_idle_is_noop (ph : Phase) (h : ph = .idle) : (if true then Phase.idle else ph) = ph := by
  subst h; rfl

/-- the three phases a suspended poll can be left in (the case split of `Phase`) -/
theorem pending_phase_cases (cfg : Cfg) (st : St) (ph : Phase) (st' : St) (ph' : Phase)
    (h : poll cfg st ph = (st', ph', .pending)) :
    ph' = .idle ∨ (∃ rem f c, ph' = .writing rem f c) ∨ ∃ f c, ph' = .flushing f c := by
  cases ph' with
  | idle => exact Or.inl rfl
  | writing rem f c => exact Or.inr (Or.inl ⟨rem, f, c, rfl⟩)
  | flushing f c => exact Or.inr (Or.inr ⟨f, c, rfl⟩)

/-- with drops restricted to safe suspension points, neither the schedule nor its numbering matters -/
theorem safe_schedule_irrelevant {cfg : Cfg} {d d' : Nat → Bool} {fuel n m : Nat} {st : St} {ph : Phase} :
    session cfg d true fuel n st ph = session cfg d' true fuel m st ph := by
  induction fuel generalizing n m st ph with
  | zero => rfl
  | succ fuel ih =>
    simp only [session]
    split
    · split
      · rfl
      · rw [ih (n := n) (m := m)]
    · rfl
    · rename_i st' ph' _
      -- a safe drop happens in phase `idle` only, where it changes nothing
      cases ph' with
      | idle => rw [ite_self, ite_self]; exact ih
      | writing | flushing => simpa using ih

/-- **cancel_safe_partial**: with drops restricted to suspension points where no decoded packet is
in flight, every drop schedule gives exactly the uninterrupted session: same deliveries in the same
order, same outgoing bytes, same remaining state -/
theorem cancel_safe_partial (cfg : Cfg) (dropAt : Nat → Bool) (fuel n : Nat) (st : St) (ph : Phase) :
    session cfg dropAt true fuel n st ph = session cfg (fun _ => false) true fuel n st ph :=
  safe_schedule_irrelevant

/-- … and the uninterrupted session does not depend on the schedule's numbering -/
theorem no_drop_schedule_irrelevant (cfg : Cfg) (fuel n m : Nat) (st : St) (ph : Phase) :
    session cfg (fun _ => false) true fuel n st ph = session cfg (fun _ => false) true fuel m st ph :=
  safe_schedule_irrelevant

/-- safe drops with unrestricted permission are the same thing as no drops, also for `safeOnly = false`,
for a schedule on which the restriction makes no difference (`hsafe`) -/
theorem cancel_safe_when_no_reply_in_flight (cfg : Cfg) (dropAt : Nat → Bool) (fuel n : Nat) (st : St) (ph : Phase)
    (hsafe : ∀ fuel' n' st' ph', session cfg dropAt false fuel' n' st' ph' = session cfg dropAt true fuel' n' st' ph' ) :
    session cfg dropAt false fuel n st ph = session cfg (fun _ => false) true fuel n st ph := by
  rw [hsafe, cancel_safe_partial]

/-! ### the full statement is false on the current code: negation witness

A keep-alive arrives; the write half is not ready once (`pending`) and then accepts 2 bytes per call.
Dropping the read future at its first suspension — which is inside the reply write — loses the
keep-alive for the caller (the next read returns the *following* packet) and leaves `01 03`, half a
reply, on the outgoing side. -/
def wcfg : Cfg := { mode := ⟨true⟩, verify := false, parse := fun b => match b with
  | [3, r, s] => .ok (.tiny r s) | _ => .err .decode }
def wst : St := { buf := [], revs := [.data [1, 3, 0, 0, 1, 3, 7, 5], .eof], wevs := [.accept 2, .pending, .accept 2], out := [] }

theorem full_statement_fails :
    (session wcfg (fun n => n == 0) false 20 0 wst .idle).1 ≠ (session wcfg (fun _ => false) false 20 0 wst .idle).1 ∧
    (session wcfg (fun n => n == 0) false 20 0 wst .idle).2.out = [1, 3] := by decide

/-- non-vacuity of the proved part: with the same frames arriving in two reads, a drop at a *read* suspension is harmless -/
def rst : St := { buf := [], revs := [.data [1, 3], .pending, .data [0, 0, 1, 3, 7, 5], .eof], wevs := [], out := [] }
example : session wcfg (fun n => n == 0) false 20 0 rst .idle = session wcfg (fun _ => false) false 20 0 rst .idle := by decide

end Insim.Props.C19
