import Insim.Base.Bytes
/-
L3: `insim::net::Mode` (mode.rs) and `insim::net::Codec` (codec.rs), transcribed line by line.
The packet parser / serialiser is a *parameter* (`parse`, a body of bytes): its own model is the
layout layer; everything here holds for every parser.
-/
namespace Insim.Frame

structure Mode where
  compressed : Bool
  deriving DecidableEq, Repr

/-- `Mode::max_length` -/
def Mode.maxLen (m : Mode) : Nat := if m.compressed then 1020 else 255
/-- size byte ↦ announced frame length -/
def Mode.announced (m : Mode) (b : Nat) : Nat := if m.compressed then b * 4 else b
/-- `valid_raw_buffer_min_len` -/
def minLen : Nat := 4

/-! ### `Mode::encode_length` -/

/-- `len` includes the size byte. The three `panic!` sites are modelled as `panic`. -/
def encodeLength (m : Mode) (len : Nat) : Out Nat :=
  if len < minLen then .panic
  else if m.compressed then
    if len % 4 = 0 then
      (if len > m.maxLen then .panic else .ok (len / 4))
    else .panic
  else
    (if len > m.maxLen then .panic else .ok len)

/-! ### `Mode::decode_length` -/

inductive DecLen where
  | needMore
  | framing
  | len (n : Nat)
  deriving DecidableEq, Repr

def decodeLength (m : Mode) (buf : Bytes) : DecLen :=
  if buf.length < minLen then .needMore
  else match buf with
    | [] => .needMore
    | b :: _ =>
      if m.announced b < minLen then .framing
      else if m.announced b > m.maxLen then .framing
      else if buf.length < m.announced b then .needMore
      else .len (m.announced b)

/-- `decodeLength` on a non-empty buffer, as a decision table in the length of the tail and the announced length -/
theorem decodeLength_cons (m : Mode) (b : Nat) (t : Bytes) :
    decodeLength m (b :: t) =
      if t.length + 1 < 4 then .needMore
      else if m.announced b < 4 then .framing
      else if m.maxLen < m.announced b then .framing
      else if t.length + 1 < m.announced b then .needMore
      else .len (m.announced b) := rfl

theorem decodeLength_len_spec (m : Mode) (buf : Bytes) (n : Nat) (h : decodeLength m buf = .len n) :
    ∃ b, buf.head? = some b ∧ n = m.announced b ∧ 4 ≤ n ∧ n ≤ m.maxLen ∧ n ≤ buf.length := by
  cases buf with
  | nil => cases h
  | cons b tl =>
    rw [decodeLength_cons] at h
    obtain ⟨_, h⟩ := else_of_ite_eq h nofun
    obtain ⟨h4, h⟩ := else_of_ite_eq h nofun
    obtain ⟨hmax, h⟩ := else_of_ite_eq h nofun
    obtain ⟨hlen, h⟩ := else_of_ite_eq h nofun
    cases h
    exact ⟨b, rfl, rfl, Nat.le_of_not_lt h4, Nat.le_of_not_lt hmax, Nat.le_of_not_lt hlen⟩

/-! ### `Codec::decode` -/

inductive Split where
  | needMore
  | framing
  | frame (f rest : Bytes)
  deriving DecidableEq, Repr

/-- `decode_length` followed by `split_to(n)` -/
def split (m : Mode) (buf : Bytes) : Split :=
  match decodeLength m buf with
  | .needMore => .needMore
  | .framing => .framing
  | .len n => .frame (buf.take n) (buf.drop n)

/-- what `split` returns as a frame is the announced prefix (at least 4 bytes, within the mode's limit) -/
theorem split_frame_spec (m : Mode) (buf f rest : Bytes) (h : split m buf = .frame f rest) :
    ∃ b, buf.head? = some b ∧ f = buf.take (m.announced b) ∧ rest = buf.drop (m.announced b) ∧
      4 ≤ m.announced b ∧ m.announced b ≤ m.maxLen ∧ m.announced b ≤ buf.length := by
  unfold split at h
  split at h
  · cases h
  · cases h
  · rename_i n hd
    obtain ⟨b, hb, rfl, h4, hm, hl⟩ := decodeLength_len_spec m buf n hd
    cases h
    exact ⟨b, hb, rfl, rfl, h4, hm, hl⟩

/-- needed for the termination of the read loop: removing a frame shrinks the buffer -/
theorem split_rest_lt (m : Mode) (buf f rest : Bytes) (h : split m buf = .frame f rest) : rest.length < buf.length := by
  obtain ⟨b, -, -, rfl, h4, -, hl⟩ := split_frame_spec m buf f rest h
  rw [List.length_drop]
  omega

/-- `Codec::decode`: result and the caller's buffer afterwards. `parse` sees the frame minus its
size byte (`advance(1)`), and nothing else. -/
def decode {P} (m : Mode) (parse : Bytes → Out P) (buf : Bytes) : Out (Option P) × Bytes :=
  match split m buf with
  | .needMore => (.ok none, buf)
  | .framing => (.err .framing, buf)
  | .frame f rest =>
    match parse (f.tail) with
    | .ok p => (.ok (some p), rest)
    | .err _ => (.err .decode, rest)
    | .panic => (.panic, rest)

/-! ### `Codec::encode` -/

/-- `body` = what `Packet::write` produced (type byte, request id, …), or its error -/
def encode (m : Mode) (body : Out Bytes) : Out Bytes :=
  match body with
  | .ok bs =>
    match encodeLength m (bs.length + 1) with
    | .ok n => .ok (n :: bs)
    | .err e => .err e
    | .panic => .panic
  | .err _ => .err .encode
  | .panic => .panic

/-- a valid frame: its size byte announces exactly its length, which is within the mode's bounds -/
def ValidFrame (m : Mode) (f : Bytes) : Prop :=
  ∃ b t, f = b :: t ∧ m.announced b = f.length ∧ 4 ≤ f.length ∧ f.length ≤ m.maxLen

end Insim.Frame
