import Insim.Props.C02
#print axioms Insim.Props.C02.conforms_all
#print axioms Insim.Props.C02.conforms_of_mem
#print axioms Insim.Props.C02.kinds_covered
#print axioms Insim.Props.C02.small_values_conform
#print axioms Insim.Props.C02.reqi_first
#print axioms Insim.Props.C02.fixed_widths
#print axioms Insim.Props.C02.fixed_of_mem
#print axioms Insim.Props.C02.spare_written_zero
#print axioms Insim.Props.C02.field_written_at
#print axioms Insim.Props.C02.field_read_at
#print axioms Insim.Props.C02.start_mark_at
#print axioms Insim.Props.C02.header
#print axioms Insim.Props.C02.coninfo_cells_conform
#print axioms Insim.Props.C02.coninfo_written
