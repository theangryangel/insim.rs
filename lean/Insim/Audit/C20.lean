import Insim.Props.C20
#print axioms Insim.Props.C20.read_serve
#print axioms Insim.Props.C20.read_pull
#print axioms Insim.Props.C20.read_conserved
#print axioms Insim.Props.C20.stream_conserved
#print axioms Insim.Props.C20.other_skipped
#print axioms Insim.Props.C20.closed_is_eof
#print axioms Insim.Props.C20.open_is_pending
#print axioms Insim.Props.C20.chunk_progress
#print axioms Insim.Props.C20.events_closed
#print axioms Insim.Props.C20.packets
#print axioms Insim.Props.C20.write_one_message
