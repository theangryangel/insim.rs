import Insim.Props.C14
#print axioms Insim.Props.C14.variants_nodup
#print axioms Insim.Props.C14.coherent
#print axioms Insim.Props.C14.wire_is_padded_code
#print axioms Insim.Props.C14.decode_wire
#print axioms Insim.Props.C14.write_mirrors_read
#print axioms Insim.Props.C14.decode_encode
#print axioms Insim.Props.C14.encode_decode
#print axioms Insim.Props.C14.decode_injective
#print axioms Insim.Props.C14.flags_follow_code
#print axioms Insim.Props.C14.open_has_no_distance
#print axioms Insim.Props.C14.area_licence
#print axioms Insim.Props.C14.tables_total
#print axioms Insim.Props.C14.names_distinct
#print axioms Insim.Props.C14.segmented_read
