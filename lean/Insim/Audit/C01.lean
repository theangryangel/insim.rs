import Insim.Props.C01
#print axioms Insim.Props.C01.all_wf
#print axioms Insim.Props.C01.kinds_complete
#print axioms Insim.Props.C01.find_self
#print axioms Insim.Props.C01.packet_roundtrip_any
#print axioms Insim.Props.C01.frame_roundtrip_any
#print axioms Insim.Props.C01.reencode_any
#print axioms Insim.Props.C01.packet_roundtrip
#print axioms Insim.Props.C01.frame_roundtrip
#print axioms Insim.Props.C01.reencode
#print axioms Insim.Props.C01.mso_frame_roundtrip
#print axioms Insim.Props.C01.text_fixed_roundtrip
#print axioms Insim.Props.C01.text_aligned_roundtrip
#print axioms Insim.Props.C01.mso_typed
#print axioms Insim.Props.C01.mso_name_is_prefix
