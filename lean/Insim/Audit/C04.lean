import Insim.Props.C04
#print axioms Insim.Props.C04.cases
#print axioms Insim.Props.C04.total
#print axioms Insim.Props.C04.frame_local
#print axioms Insim.Props.C04.error_keeps_successors
