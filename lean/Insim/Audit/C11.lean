import Insim.Props.C11
#print axioms Insim.Props.C11.fixed_length
#print axioms Insim.Props.C11.fixed_content
#print axioms Insim.Props.C11.fixed_prefix
#print axioms Insim.Props.C11.aligned
#print axioms Insim.Props.C11.aligned_content
#print axioms Insim.Props.C11.layouts_text_ok
#print axioms Insim.Props.C11.read_stops_at_nul
#print axioms Insim.Props.C11.read_no_nul
#print axioms Insim.Props.C11.read_has_no_nul
#print axioms Insim.Props.C11.read_write_fixed
#print axioms Insim.Props.C11.terminated_partial
#print axioms Insim.Props.C11.terminated_fails_fixed
#print axioms Insim.Props.C11.terminated_fails_aligned
#print axioms Insim.Props.C11.sink_independent
#print axioms Insim.Props.C11.sink_prefix
