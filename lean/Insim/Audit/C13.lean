import Insim.Props.C13
#print axioms Insim.Props.C13.read_table_is_spec
#print axioms Insim.Props.C13.rule
#print axioms Insim.Props.C13.write_mirrors_read
#print axioms Insim.Props.C13.reencode
#print axioms Insim.Props.C13.decode_injective
#print axioms Insim.Props.C13.no_confusion
#print axioms Insim.Props.C13.unknown_name_is_error
#print axioms Insim.Props.C13.display_is_wire
#print axioms Insim.Props.C13.write_total
#print axioms Insim.Props.C13.read_names_declared
#print axioms Insim.Props.C13.segmented_read
