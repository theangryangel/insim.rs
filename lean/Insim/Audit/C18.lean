import Insim.Props.C18
#print axioms Insim.Props.C18.last_writer
#print axioms Insim.Props.C18.pfx_last
#print axioms Insim.Props.C18.interval_last
#print axioms Insim.Props.C18.iname_last
#print axioms Insim.Props.C18.admin_last
#print axioms Insim.Props.C18.reqi_last
#print axioms Insim.Props.C18.mode_last
#print axioms Insim.Props.C18.proto_last
#print axioms Insim.Props.C18.local_last
#print axioms Insim.Props.C18.flag_bit_last
#print axioms Insim.Props.C18.isi_last_writer
#print axioms Insim.Props.C18.setters_are_spec
