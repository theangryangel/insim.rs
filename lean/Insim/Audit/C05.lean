import Insim.Props.C05
#print axioms Insim.Props.C05.reassembly
#print axioms Insim.Props.C05.reassembly_fresh
#print axioms Insim.Props.C05.segmentation_independent
#print axioms Insim.Props.C05.bad_frame_local
#print axioms Insim.Props.C05.demoValid
