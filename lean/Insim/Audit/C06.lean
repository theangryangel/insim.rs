import Insim.Props.C06
#print axioms Insim.Props.C06.write_all_spec
#print axioms Insim.Props.C06.write_all_completes
#print axioms Insim.Props.C06.write_many_spec
#print axioms Insim.Props.C06.write_many_ok
#print axioms Insim.Props.C06.write_many_prefix
#print axioms Insim.Props.C06.write_many_completes
