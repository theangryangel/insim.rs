import Insim.Props.C19
#print axioms Insim.Props.C19.drop_idle_is_noop
#print axioms Insim.Props.C19.pending_phase_cases
#print axioms Insim.Props.C19.safe_schedule_irrelevant
#print axioms Insim.Props.C19.cancel_safe_partial
#print axioms Insim.Props.C19.no_drop_schedule_irrelevant
#print axioms Insim.Props.C19.cancel_safe_when_no_reply_in_flight
#print axioms Insim.Props.C19.full_statement_fails
