import Insim.Props.C03
#print axioms Insim.Props.C03.size_byte_sound
#print axioms Insim.Props.C03.refusal
#print axioms Insim.Props.C03.all_sizes_ok
#print axioms Insim.Props.C03.vec_length_mod4
#print axioms Insim.Props.C03.encTail_length_mod4
#print axioms Insim.Props.C03.frame_length_mult4
#print axioms Insim.Props.C03.wellformed
#print axioms Insim.Props.C03.count_no_wrap
#print axioms Insim.Props.C03.count_fits
