import Insim.Props.C17
#print axioms Insim.Props.C17.pth_ok
#print axioms Insim.Props.C17.smx_ok
#print axioms Insim.Props.C17.pth_canon_free
#print axioms Insim.Props.C17.pth_total
#print axioms Insim.Props.C17.smx_total
#print axioms Insim.Props.C17.pth_prefix_rejected
#print axioms Insim.Props.C17.smx_prefix_rejected
#print axioms Insim.Props.C17.pth_extension
#print axioms Insim.Props.C17.smx_extension
#print axioms Insim.Props.C17.pth_negative_count
#print axioms Insim.Props.C17.smx_negative_object_count
#print axioms Insim.Props.C17.smx_negative_point_or_triangle_count
#print axioms Insim.Props.C17.pth_size_justified
#print axioms Insim.Props.C17.smx_size_justified
#print axioms Insim.Props.C17.pth_write_parse
#print axioms Insim.Props.C17.smx_write_parse
#print axioms Insim.Props.C17.pth_parse_write_parse
#print axioms Insim.Props.C17.smx_parse_write_parse
#print axioms Insim.Props.C17.pth_canonical
#print axioms Insim.Props.C17.smx_canonical
#print axioms Insim.Props.C17.sink_independent
#print axioms Insim.Props.C17.sink_prefix
