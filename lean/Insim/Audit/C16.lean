import Insim.Props.C16
#print axioms Insim.Props.C16.parse_minor_upper
#print axioms Insim.Props.C16.alpha_not_major
#print axioms Insim.Props.C16.case_insensitive
#print axioms Insim.Props.C16.parse_print
#print axioms Insim.Props.C16.print_parse
#print axioms Insim.Props.C16.cmp_is_lex
#print axioms Insim.Props.C16.cmp_eq_iff
#print axioms Insim.Props.C16.cmp_refl
#print axioms Insim.Props.C16.cmp_antisymm
#print axioms Insim.Props.C16.cmp_trans
#print axioms Insim.Props.C16.cmp_total
#print axioms Insim.Props.C16.cmp_congr
