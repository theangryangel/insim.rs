import Insim.Props.C08
#print axioms Insim.Props.C08.read_conserved
#print axioms Insim.Props.C08.read_progress
#print axioms Insim.Props.C08.readExact_conserved
#print axioms Insim.Props.C08.ops_conserved
#print axioms Insim.Props.C08.ops_sent_prefix
#print axioms Insim.Props.C08.runOps_rd
#print axioms Insim.Props.C08.runOps_reads
#print axioms Insim.Props.C08.stream_conserved
#print axioms Insim.Props.C08.packets
#print axioms Insim.Props.C08.write_one_datagram
