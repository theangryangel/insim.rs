import Insim.Props.C07
#print axioms Insim.Props.C07.only
#print axioms Insim.Props.C07.pong_is_encoded_tiny_none
#print axioms Insim.Props.C07.frame_reply
#print axioms Insim.Props.C07.flatMap_writes
#print axioms Insim.Props.C07.filterMap_wroteOf_filter
#print axioms Insim.Props.C07.pongs
#print axioms Insim.Props.C07.reply_precedes_delivery
