import Insim.Props.C09
#print axioms Insim.Props.C09.gate_on
#print axioms Insim.Props.C09.gate_off
#print axioms Insim.Props.C09.others
#print axioms Insim.Props.C09.others_delivered
#print axioms Insim.Props.C09.gate_in_history
