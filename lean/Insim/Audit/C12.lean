import Insim.Props.C12
#print axioms Insim.Props.C12.unescapeSlow_escaped
#print axioms Insim.Props.C12.unescape_escape
#print axioms Insim.Props.C12.forall_escaped
#print axioms Insim.Props.C12.no_reserved
#print axioms Insim.Props.C12.stripSlow_spec
#print axioms Insim.Props.C12.strip_spec
#print axioms Insim.Props.C12.stripSlow_no_caret
#print axioms Insim.Props.C12.stripSlow_idem
#print axioms Insim.Props.C12.strip_idem
#print axioms Insim.Props.C12.strip_keeps_escaped_caret
#print axioms Insim.Props.C12.caretOk_escaped
#print axioms Insim.Props.C12.caretOk_no_caret
#print axioms Insim.Props.C12.no_caret_of_nothing_to_escape
#print axioms Insim.Props.C12.wire_roundtrip
