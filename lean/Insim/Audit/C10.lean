import Insim.Props.C10
#print axioms Insim.Props.C10.caretOk_cons
#print axioms Insim.Props.C10.caretOk_of_ne
#print axioms Insim.Props.C10.enc_nonempty
#print axioms Insim.Props.C10.encGo_head
#print axioms Insim.Props.C10.faithful_go
#print axioms Insim.Props.C10.faithful_carets
#print axioms Insim.Props.C10.faithful
#print axioms Insim.Props.C10.ascii_passthrough
#print axioms Insim.Props.C10.lossy_local
#print axioms Insim.Props.C10.lossy_local_toBytes
#print axioms Insim.Props.C10.marker_semantics
#print axioms Insim.Props.C10.marker_to_end
#print axioms Insim.Props.C10.caret8
#print axioms Insim.Props.C10.table_is_spec
#print axioms Insim.Props.C10.markers_are_model
