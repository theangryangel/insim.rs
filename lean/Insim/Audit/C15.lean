import Insim.Props.C15
#print axioms Insim.Props.C15.dur_dec_enc
#print axioms Insim.Props.C15.dur_floor
#print axioms Insim.Props.C15.dur_floor_ms
#print axioms Insim.Props.C15.dur_refuse
#print axioms Insim.Props.C15.fields_mirror
#print axioms Insim.Props.C15.fields_dec_enc
#print axioms Insim.Props.C15.byteToLaps_low
#print axioms Insim.Props.C15.byteToLaps_mid
#print axioms Insim.Props.C15.byteToLaps_hours
#print axioms Insim.Props.C15.laps_unspecified
#print axioms Insim.Props.C15.lapsToByte_low
#print axioms Insim.Props.C15.lapsToByte_mid
#print axioms Insim.Props.C15.lapsToByte_hours
#print axioms Insim.Props.C15.laps_dec_enc
#print axioms Insim.Props.C15.laps_enc_sound
#print axioms Insim.Props.C15.laps_out_of_range
#print axioms Insim.Props.C15.smallScale_pos
#print axioms Insim.Props.C15.small_dec_enc
#print axioms Insim.Props.C15.small_refuse
#print axioms Insim.Props.C15.small_floor
#print axioms Insim.Props.C15.fuel_dec_enc
